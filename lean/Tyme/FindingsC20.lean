import Tyme.Thm.C20
/- C20 findings in the model (built on demand, NOT an obligation: a repair of the look-up order would make it fail,
which is no violation). -/
namespace Tyme
open Fest FestSpec Gen.C20

/-- a calendar in which every term day is lunar 12-08 of year 19 (what the library computes for the winter solstice of AD 19) -/
def calSolsticeOnLaba : Cal := ⟨fun _ _ _ => true, fun _ _ _ => some 0, fun _ => some (19, 12, 8), fun _ _ => some 0⟩

/-- D18 in the model: the winter-solstice festival (index 10) found by index falls on 12-08, and the by-date look-up
of that day answers the LATER-listed festival 11 (fixed-date records are consulted before term records). -/
theorem Finding_C20_later_listed :
    lunarFromIndex calSolsticeOnLaba lunarNames.length lunarData 19 10 = .found ⟨10, 1, 19, 12, 8, 0⟩ ∧
    lunarFromYmd calSolsticeOnLaba lunarData 19 12 8 = .found ⟨11, 0, 19, 12, 8, -1⟩ := by decide +kernel

theorem Finding_C20_not_full : ¬ C20_lunar_back_full := by
  intro h
  obtain ⟨g, hg, hle, _⟩ := h calSolsticeOnLaba 19 10 _ Finding_C20_later_listed.1
  rw [Finding_C20_later_listed.2] at hg
  cases hg
  simp only [] at hle
  omega

def calPlain : Cal := ⟨fun _ _ _ => true, fun _ _ _ => some 0,
  fun j => if j == 24 then some (2023, 11, 10) else some (2023, -2, 15), fun _ t => some t⟩

/-- D13 in the model: the unrepaired by-date look-up (first term record only) does not find the winter-solstice festival
on its own day, the repaired one does. -/
theorem Finding_C20_D13 :
    lunarFromIndex calPlain lunarNames.length lunarData 2023 10 = .found ⟨10, 1, 2023, 11, 10, 0⟩ ∧
    lunarFromYmd calPlain lunarData 2023 11 10 (termFirstOnly := true) = .absent ∧
    lunarFromYmd calPlain lunarData 2023 11 10 = .found ⟨10, 1, 2023, 11, 10, 0⟩ := by decide +kernel

end Tyme

import Tyme.Lemmas.Containers
import Tyme.Lemmas.DayView
/-!
Helper lemmas for C13: `SixtyCycleMonth::get_days` lists exactly the days from the month's Jie day to the day before the
next Jie day. Everything is stated for an abstract ephemeris under named facts (`TermFacts`, `NewYearFacts`), which hold of
`realEph` by Facts/C13Win.lean. Two facts about a civil day between the two Jie days carry both the
partial and the total statement: its view decides the loop (`scm_same_of_view`), and it lies inside the tiling interval
(`scm_day_in_interval`).
-/
namespace Tyme.Cont
open Tyme Lunar

/-- `SixtyCycleMonth::get_first_day`: accepted exactly when the month's Jie is a term of the table with a representable day
inside 0001..9999, and then it is that day -/
theorem scmFirstDay_iff (E : Eph) (x : SCMonth) (d : Int × Int × Int) :
    scmFirstDay E x = some d ↔ (0 ≤ scmJie x ∧ scmJie x < 240000 ∧ E.termDay (scmJie x).toNat ≠ 0 ∧
      jdnFirst ≤ E.termDay (scmJie x).toNat ∧ E.termDay (scmJie x).toNat ≤ jdnLast ∧ d = ofJdn (E.termDay (scmJie x).toNat)) := by
  unfold scmFirstDay
  dsimp only
  split
  · exact ⟨fun h => (nomatch h), fun h => by omega⟩
  · split <;> rename_i h0 h1
    · exact ⟨fun h => (nomatch h), fun h => absurd h1 h.2.2.1⟩
    · rw [ofJdn_guard_iff]
      exact ⟨fun h => ⟨by omega, by omega, h1, h⟩, fun h => h.2.2.2⟩

theorem scmSame_iff (x : SCMonth) (v : SC.DayView) : scmSame x v = true ↔ (v.year = SC.yearPillar x.year ∧ v.month = x.pillar) := by
  unfold scmSame; simp

/-- every civil day from the Jie day of a month of sexagenary year y to the next Jie day lies in the civil years a..b, inside the
tiling interval, and not before the first representable term (it is a day of civil year y or y + 1) -/
theorem scm_day_in_interval {E : Eph} (tf : TermFacts E) (nf : NewYearFacts E) (a b : Int) (ha0 : 0 ≤ a) (hb9 : b + 1 ≤ 9999)
    (y : Int) (hy1 : 1 ≤ y) (hay : a = 0 ∨ a + 1 ≤ y) (hyb : y + 1 ≤ b) (g0 : Nat) (hg0 : 24 * (y - 1) + 3 ≤ (g0 : Int))
    (hg0u : (g0 : Int) + 2 ≤ 24 * y + 3)
    (Y M D : Int) (hv : Civil.valid Y M D = true) (h1 : E.termDay g0 ≤ jdn Y M D) (h2 : jdn Y M D ≤ E.termDay (g0 + 2)) :
    a ≤ Y ∧ Y ≤ b ∧ first E ⟨a, 0⟩ ≤ jdn Y M D ∧ jdn Y M D < first E ⟨b + 1, 0⟩ ∧ E.termDay 1 ≤ jdn Y M D := by
  have t1 := (term_of_sc_year tf y (by omega) g0 (by omega) hg0 (by omega)).1 hy1
  have t2 := (term_of_sc_year tf y (by omega) (g0 + 2) (by omega) (by omega) (by omega)).2
  have m0 := (term_span tf 1 g0 (by omega) (by omega) (by omega)).1
  have js1 := jan1_step (y + 1)
  have hYy := year_ge Y M D y hv (by omega)
  have hYy1 := year_le Y M D (y + 1) hv (by omega)
  have mb := jdn_jan1_le (y + 1 + 1) (b + 1) (by omega)
  obtain ⟨s1, s2⟩ := span_of_day nf a b ha0 (by omega) hb9 (jdn Y M D) y hy1 (by omega)
    (by rw [if_neg (by omega)]; omega) (by omega)
  exact ⟨by omega, by omega, s1, s2, by omega⟩

/-- the view of a day between the Jie day of month k of sexagenary year y and the next Jie day (inclusive) says "this month"
exactly before the next Jie day: its term is g₀ or g₀ + 1 there, and g₀ + 2 — the next month's ordinal, another month
pillar — on the next Jie day -/
theorem scm_same_of_view {E : Eph} (tf : TermFacts E) (y : Int) (k : Nat) (hy : 0 ≤ y ∧ y ≤ 9997) (hk : k < 12)
    (fm : Int) (hfm : SC.firstMonthPillar y = some fm) (g0 : Nat) (hg0 : (g0 : Int) = 24 * (y - 1) + 3 + 2 * (k : Int))
    (Y M D : Int) (hv : Civil.valid Y M D = true) (v : SC.DayView) (hview : SC.ofSolarDay E Y M D = some v)
    (hLY : LunarYearOK E Y M D) (h1 : E.termDay g0 ≤ jdn Y M D) (h2 : jdn Y M D ≤ E.termDay (g0 + 2)) :
    scmSame ⟨y, SC.cycNext fm k⟩ v = decide (jdn Y M D < E.termDay (g0 + 2)) := by
  rw [SC.firstMonthPillar_eq] at hfm
  cases hfm
  -- the day lies in a civil year ≤ 9998: the next Jie is not after Lichun of y + 1
  have hY98 : Y ≤ 9998 := by
    have t := (term_of_sc_year tf y (by omega) (g0 + 2) (by omega) (by omega) (by omega)).2
    have js := jan1_step (y + 1)
    have := year_le Y M D (y + 1) hv (by omega)
    omega
  obtain ⟨g, _, _, g1, _, gu, g3, g4, _, p2, p3⟩ := day_view_spec E tf Y M D hv hY98 v hview hLY
  -- the comparisons of the day with the Jie days are comparisons of its cell g with their indices
  have cell := fun x (hx : 1 ≤ x ∧ x ≤ 239977) =>
    cell_lt_iff (termDay_step tf) (x := x) g1 (by omega) g3 g4 hx.1 hx.2
  have i3 : E.termDay (g0 + 2) < E.termDay (g0 + 2 + 1) := termDay_step tf (g0 + 2) (by omega) (by omega)
  have lo : ¬ g < g0 := fun h => absurd ((cell g0 (by omega)).2 h) (by omega)
  have hi : g < g0 + 2 + 1 := (cell (g0 + 2 + 1) (by omega)).1 (by omega)
  rw [Bool.eq_iff_iff, scmSame_iff, decide_eq_true_eq, p2, p3, C08_yearPillar, C08_yearPillar, SC.cycNext_eq,
    cell (g0 + 2) (by omega)]
  unfold monthOrd
  dsimp only
  omega

/-- `SixtyCycleMonth::get_days` of month k of sexagenary year y: whenever it returns, the list is exactly the civil days
from the day of Jie g₀ = 24(y−1)+3+2k up to the day before the day of the next Jie g₀+2, in order. -/
theorem scmDays_spec (E : Eph) (tf : TermFacts E) (y : Int) (k : Nat) (hy : 0 ≤ y ∧ y ≤ 9997) (hk : k < 12)
    (fm : Int) (hfm : SC.firstMonthPillar y = some fm) (L : List (Int × Int × Int))
    (h : scmDays E ⟨y, SC.cycNext fm k⟩ = some L)
    (hLY : ∀ Y M D, Civil.valid Y M D = true → E.termDay (24 * (y - 1) + 3 + 2 * (k : Int)).toNat ≤ jdn Y M D →
      jdn Y M D ≤ E.termDay ((24 * (y - 1) + 3 + 2 * (k : Int)).toNat + 2) → LunarYearOK E Y M D) :
    (L.length : Int) = E.termDay ((24 * (y - 1) + 3 + 2 * (k : Int)).toNat + 2) - E.termDay (24 * (y - 1) + 3 + 2 * (k : Int)).toNat ∧
    ∀ i (hi : i < L.length), Civil.validT L[i] = true ∧ jdnT L[i] = E.termDay (24 * (y - 1) + 3 + 2 * (k : Int)).toNat + i := by
  unfold scmDays at h
  split at h
  · cases h
  · rename_i d0 hd0
    obtain ⟨j0, _, j1, r1, r2, rfl⟩ := (scmFirstDay_iff E _ d0).1 hd0
    obtain ⟨j2, j3⟩ := C01_jdn_ofJdn _ r1 r2
    rw [(scmJie_month y k hk fm hfm).2] at j0 j1 j2 j3 h
    generalize hg0 : (24 * (y - 1) + 3 + 2 * (k : Int)).toNat = g0 at *
    have hg1 := ((tf.ne_zero_iff g0).1 j1).1
    have gap := (term_span tf g0 (g0 + 2) hg1 (by omega) (by omega)).1
    rw [← j3]
    refine scmDaysLoop_run E _ scmFuel _ L h j2 _ (by omega) fun a v hv h1 h2 hview => ?_
    rw [j3] at h1
    exact scm_same_of_view tf y k hy hk fm hfm g0 (by omega) a.1 a.2.1 a.2.2 hv v hview (hLY _ _ _ hv h1 h2) h1 h2

end Tyme.Cont

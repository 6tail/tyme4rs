import Tyme.Model.Lunar
import Tyme.Lemmas.Steps
/-! Lunar months along the listing: the order of months, their global position, the successor month, and
`LunarMonth::next` as the shift on positions (`next_iff`, `next_add`); and the constructor `LunarMonth::from_ym` with the
index `idxOf` of a signed month number (`fromYm_eq_some`, `fromYm_of_valid`, `fromYm_mwl`, `dayNew_mwl`). -/
namespace Tyme.Lunar
open Tyme

/-- number of lunations in lunar years 0..y-1 -/
def cum (E : Eph) : Nat → Int
  | 0 => 0
  | y+1 => cum E y + E.cnt (y : Int)

def cumI (E : Eph) (y : Int) : Int := cum E y.toNat

theorem cumI_succ (E : Eph) (y : Int) (h : 0 ≤ y) : cumI E (y + 1) = cumI E y + E.cnt y := by
  unfold cumI
  have : (y + 1).toNat = y.toNat + 1 := by omega
  rw [this, cum]
  have : ((y.toNat : Nat) : Int) = y := by omega
  rw [this]

theorem cnt_cases (E : Eph) (y : Int) : E.cnt y = 12 ∨ E.cnt y = 13 := by
  unfold Eph.cnt; split <;> simp

theorem cumI_pred (E : Eph) (y : Int) (h : 1 ≤ y) : cumI E y = cumI E (y - 1) + E.cnt (y - 1) := by
  have := cumI_succ E (y - 1) (by omega)
  rwa [show y - 1 + 1 = y by omega] at this

theorem cumI_gap (E : Eph) (p q : Int) (hp : 0 ≤ p) (hpq : p ≤ q) : cumI E p + 12 * (q - p) ≤ cumI E q :=
  gapI_of_step (T := cumI E) (a := 0) (N := q)
    (fun y h _ => by have := cumI_succ E y h; have := cnt_cases E y; omega) hp hpq (Int.le_refl q)

theorem cumI_lt_of_lt (E : Eph) (p q : Int) (hp : 0 ≤ p) (hlt : p < q) : cumI E p + E.cnt p ≤ cumI E q := by
  have := cumI_gap E (p + 1) q (by omega) (by omega)
  have := cumI_succ E p hp
  omega

theorem cumI_le_of_le (E : Eph) (p q : Int) (hp : 0 ≤ p) (hle : p ≤ q) : cumI E p ≤ cumI E q := by
  have := cumI_gap E p q hp hle
  omega

/-- global listing position of a month -/
def gpos (E : Eph) (x : Month) : Int := cumI E x.y + x.idx

def WF (E : Eph) (x : Month) : Prop := 0 ≤ x.y ∧ x.y ≤ 9999 ∧ x.idx < E.cnt x.y

/-- listing order of months: by year, then by index in the year -/
def Month.lt (u v : Month) : Prop := u.y < v.y ∨ (u.y = v.y ∧ u.idx < v.idx)

theorem Month.lt_trichotomy (u v : Month) : Month.lt u v ∨ u = v ∨ Month.lt v u := by
  unfold Month.lt
  cases u; cases v
  simp only [Month.mk.injEq]
  omega

theorem gpos_lt_of_lt (E : Eph) {u v : Month} (hu : WF E u) (h : Month.lt u v) : gpos E u < gpos E v := by
  unfold gpos
  rcases h with h | ⟨h1, h2⟩
  · have := cumI_lt_of_lt E u.y v.y hu.1 h; have := hu.2.2; omega
  · rw [h1]; omega

theorem gpos_lt_iff (E : Eph) {u v : Month} (hu : WF E u) (hv : WF E v) : gpos E u < gpos E v ↔ Month.lt u v := by
  refine ⟨fun h => ?_, gpos_lt_of_lt E hu⟩
  rcases Month.lt_trichotomy u v with h' | h' | h'
  · exact h'
  · rw [h'] at h; omega
  · have := gpos_lt_of_lt E hv h'; omega

theorem gpos_inj (E : Eph) {a b : Month} (ha : WF E a) (hb : WF E b) (h : gpos E a = gpos E b) : a = b := by
  rcases Month.lt_trichotomy a b with h' | h' | h'
  · have := gpos_lt_of_lt E ha h'; omega
  · exact h'
  · have := gpos_lt_of_lt E hb h'; omega

def succM (E : Eph) (x : Month) : Month :=
  if x.idx + 1 < E.cnt x.y then ⟨x.y, x.idx + 1⟩ else ⟨x.y + 1, 0⟩

theorem gpos_succM (E : Eph) (x : Month) (h0 : 0 ≤ x.y) (hi : x.idx < E.cnt x.y) :
    gpos E (succM E x) = gpos E x + 1 := by
  unfold succM gpos
  split
  · simp; omega
  · have := cumI_succ E x.y h0
    simp only [this]
    have : x.idx + 1 = E.cnt x.y := by omega
    simp; omega

theorem succM_year (E : Eph) (x : Month) : (succM E x).y = x.y ∨ (succM E x).y = x.y + 1 := by
  unfold succM; split <;> simp

theorem WF_succM (E : Eph) (u : Month) (hu : WF E u) (h : u.idx + 1 < E.cnt u.y ∨ u.y + 1 ≤ 9999) :
    WF E (succM E u) := by
  unfold succM
  split
  · rename_i h'; exact ⟨hu.1, hu.2.1, h'⟩
  · have hc := cnt_cases E (u.y + 1)
    exact ⟨by dsimp only; have := hu.1; omega, by dsimp only; omega, by dsimp only; omega⟩

theorem succM_of_gpos (E : Eph) {x' x : Month} (h' : WF E x') (h : WF E x) (hg : gpos E x = gpos E x' + 1) :
    x = succM E x' := by
  have hs := gpos_succM E x' h'.1 h'.2.2
  by_cases h9 : x'.idx + 1 < E.cnt x'.y ∨ x'.y + 1 ≤ 9999
  · exact gpos_inj E h (WF_succM E x' h' h9) (by omega)
  · -- x' is the last month of year 9999: no well-formed month sits one place later
    exfalso
    rcases Month.lt_trichotomy x x' with hl | hl | hl
    · have := gpos_lt_of_lt E h hl; omega
    · rw [hl] at hg; omega
    · rcases hl with hl | ⟨hl, hl'⟩
      · have := h.2.1; omega
      · have := h.2.2; rw [← hl] at this; omega

theorem loopF_spec (E : Eph) : ∀ (f : Nat) (m y : Int) (r : Int × Int), 0 ≤ y → y ≤ 9999 → 1 ≤ m →
    loopF E f m y = some r →
    cumI E r.2 + r.1 = cumI E y + m ∧ 1 ≤ r.1 ∧ r.1 ≤ E.cnt r.2 ∧ y ≤ r.2 ∧ r.2 ≤ 9999 := by
  intro f
  induction f with
  | zero => intro m y r _ _ _ h; simp [loopF] at h
  | succ f ih =>
    intro m y r hy hy2 hm h
    simp only [loopF] at h
    split at h
    · rename_i hgt
      split at h
      · simp at h
      · rename_i h9
        have hc := cnt_cases E y
        obtain ⟨i1, i2, i3, i4, i5⟩ := ih (m - E.cnt y) (y + 1) r (by omega) (by omega) (by omega) h
        rw [cumI_succ E y hy] at i1
        exact ⟨by omega, i2, i3, by omega, i5⟩
    · rename_i hle
      simp only [Option.some.injEq] at h
      subst h
      exact ⟨rfl, hm, by simpa using hle, Int.le_refl _, hy2⟩

theorem loopB_spec (E : Eph) : ∀ (f : Nat) (m y : Int) (r : Int × Int), m ≤ E.cnt y →
    loopB E f m y = some r → 0 ≤ r.2 →
    cumI E r.2 + r.1 = cumI E y + m ∧ 1 ≤ r.1 ∧ r.1 ≤ E.cnt r.2 ∧ r.2 ≤ y := by
  intro f
  induction f with
  | zero => intro m y r _ h; simp [loopB] at h
  | succ f ih =>
    intro m y r hm h hr
    simp only [loopB] at h
    split at h
    · rename_i hle
      split at h
      · simp at h
      · rename_i h9
        have hc := cnt_cases E (y - 1)
        obtain ⟨i1, i2, i3, i4⟩ := ih (m + E.cnt (y - 1)) (y - 1) r (by omega) h hr
        have := cumI_pred E y (by omega)
        exact ⟨by omega, i2, i3, by omega⟩
    · rename_i hgt
      simp only [Option.some.injEq] at h
      subst h
      exact ⟨rfl, by omega, hm, Int.le_refl _⟩

/-- twelve months per round suffice, as long as the target lies on the listing -/
theorem loopF_total (E : Eph) : ∀ (f : Nat) (m y : Int), 0 ≤ y → y ≤ 9999 → 1 ≤ m → m ≤ 12 * (f : Int) →
    cumI E y + m ≤ cumI E 10000 → ∃ r, loopF E f m y = some r := by
  intro f
  induction f with
  | zero => intro m y _ _ h1 h2 _; omega
  | succ f ih =>
    intro m y hy0 hy9 hm1 hm2 htot
    rw [loopF]
    by_cases hgt : m > (E.cnt y : Int)
    · have hs := cumI_succ E y hy0
      have hc := cnt_cases E y
      have hy1 : ¬ (y + 1 > 9999) := by
        intro hh
        have : y + 1 = 10000 := by omega
        rw [this] at hs
        omega
      simp only [hgt, if_true, hy1, if_false]
      exact ih (m - E.cnt y) (y + 1) (by omega) (by omega) (by omega) (by omega) (by omega)
    · simp only [hgt, if_false]
      exact ⟨_, rfl⟩

theorem loopB_total (E : Eph) : ∀ (f : Nat) (m y : Int), 0 ≤ y → 1 - 12 * (f : Int) ≤ m →
    1 ≤ cumI E y + m → ∃ r, loopB E (f + 1) m y = some r ∧ 0 ≤ r.2 := by
  intro f
  induction f with
  | zero =>
    intro m y hy0 hm hpos
    rw [loopB]
    have hle : ¬ (m ≤ 0) := by omega
    simp only [hle, if_false]
    exact ⟨_, rfl, hy0⟩
  | succ f ih =>
    intro m y hy0 hm hpos
    rw [loopB]
    by_cases hle : m ≤ 0
    · have hy1 : 1 ≤ y := by
        by_cases h : 1 ≤ y
        · exact h
        · exfalso
          have : y = 0 := by omega
          rw [this] at hpos
          have : cumI E 0 = 0 := rfl
          omega
      have hs := cumI_pred E y hy1
      have hc := cnt_cases E (y - 1)
      have hn : ¬ (y - 1 < -1) := by omega
      simp only [hle, if_true, hn, if_false]
      exact ih (m + E.cnt (y - 1)) (y - 1) (by omega) (by omega) (by omega)
    · simp only [hle, if_false]
      exact ⟨_, rfl, hy0⟩

/-- index in its year of the month with signed number m, when the year's leap month is lp (what `fromYm` computes) -/
def idxOf (lp : Nat) (m : Int) : Nat := m.natAbs - 1 + (if m < 0 ∨ (lp > 0 ∧ m.natAbs > lp) then 1 else 0)

theorem fromYm_eq_some {E : Eph} {y m : Int} {x : Month} (h : fromYm E y m = some x) :
    0 ≤ y ∧ y ≤ 9999 ∧ m ≠ 0 ∧ -12 ≤ m ∧ m ≤ 12 ∧ (m < 0 → m.natAbs = E.leap y) ∧ x = ⟨y, idxOf (E.leap y) m⟩ := by
  unfold fromYm at h
  split at h
  · cases h
  · split at h
    · cases h
    · split at h
      · cases h
      · cases h
        refine ⟨by omega, by omega, by omega, by omega, by omega, fun hm => ?_, rfl⟩
        rename_i h3; exact Decidable.byContradiction fun hne => h3 ⟨hm, hne⟩

/-- the index is increasing in (|month|, regular before leap): the order `LunarDay::is_before` uses -/
theorem idxOf_lt_iff (lp : Nat) (m m' : Int) (hm : m ≠ 0) (hm' : m' ≠ 0)
    (h1 : m < 0 → m.natAbs = lp) (h1' : m' < 0 → m'.natAbs = lp) :
    idxOf lp m < idxOf lp m' ↔ (m.natAbs < m'.natAbs ∨ (m.natAbs = m'.natAbs ∧ m' < m)) := by
  unfold idxOf
  split <;> split <;> omega

theorem fromYm_WF (E : Eph) (hl : ∀ y, E.leap y ≤ 12) {y m : Int} {x : Month} (h : fromYm E y m = some x) :
    WF E x ∧ x.y = y := by
  obtain ⟨h0, h9, m0, m1, m2, m3, rfl⟩ := fromYm_eq_some h
  refine ⟨⟨h0, h9, ?_⟩, rfl⟩
  have := hl y
  unfold Eph.cnt idxOf
  dsimp only
  generalize E.leap y = lp at *
  repeat' split
  all_goals omega

theorem fromYm_of_valid (E : Eph) {y m : Int} (h0 : 0 ≤ y) (h9 : y ≤ 9999) (m0 : m ≠ 0) (m1 : -12 ≤ m) (m2 : m ≤ 12)
    (m3 : m < 0 → m.natAbs = E.leap y) : fromYm E y m = some ⟨y, idxOf (E.leap y) m⟩ := by
  unfold fromYm
  rw [if_neg (by omega), if_neg (by omega), if_neg (fun h => h.2 (m3 h.1))]
  rfl

/-- the signed number `monthWithLeap` gives the month at index i of a year with leap month lp is one `fromYm` accepts,
with index i -/
theorem idxOf_mwl (lp i : Nat) (hlp : lp ≤ 12) (hi : i < (if lp > 0 then 13 else 12)) (m : Int)
    (hm : m = if lp = 0 ∨ i < lp then (i : Int) + 1 else if i = lp then -((lp : Nat) : Int) else (i : Int)) :
    m ≠ 0 ∧ -12 ≤ m ∧ m ≤ 12 ∧ (m < 0 → m.natAbs = lp) ∧ idxOf lp m = i := by
  unfold idxOf
  subst hm
  split at hi
  all_goals repeat' split
  all_goals omega

theorem idxOf_one (lp : Nat) : idxOf lp 1 = 0 := by
  unfold idxOf
  rw [if_neg (by omega)]
  rfl

theorem fromYm_mwl (E : Eph) (hl : ∀ y, E.leap y ≤ 12) (x : Month) (hx : WF E x) :
    fromYm E x.y (monthWithLeap E x) = some x := by
  obtain ⟨m0, m1, m2, m3, e⟩ := idxOf_mwl (E.leap x.y) x.idx (hl x.y) hx.2.2 (monthWithLeap E x) rfl
  rw [fromYm_of_valid E hx.1 hx.2.1 m0 m1 m2 m3, e]

theorem fromYm_first (E : Eph) (y : Int) (hy : 0 ≤ y ∧ y ≤ 9999) : fromYm E y 1 = some ⟨y, 0⟩ := by
  rw [fromYm_of_valid E hy.1 hy.2 (by decide) (by decide) (by decide) (by omega), idxOf_one]

/-- `LunarDay::from_ymd` on the numbers of a month value and a day of it gives the pair back (converse of `dayNew_eq_some`) -/
theorem dayNew_mwl (E : Eph) (hl : ∀ y, E.leap y ≤ 12) (x : Month) (hx : WF E x) (d : Int) (h1 : 1 ≤ d) (h2 : d ≤ len E x) :
    dayNew E x.y (monthWithLeap E x) d = some (x, d) := by
  unfold dayNew
  rw [fromYm_mwl E hl x hx]
  exact if_neg (by omega)

theorem monthWithLeap_eq (E : Eph) (x : Month) :
    monthWithLeap E x =
      (if decide (((E.leap x.y : Nat) : Int) > 0 ∧ ((x.idx : Int) + 1) = ((E.leap x.y : Nat) : Int) + 1) = true
        then -(if ((E.leap x.y : Nat) : Int) > 0 ∧ ((x.idx : Int) + 1) > ((E.leap x.y : Nat) : Int) then ((x.idx : Int) + 1) - 1 else ((x.idx : Int) + 1))
        else (if ((E.leap x.y : Nat) : Int) > 0 ∧ ((x.idx : Int) + 1) > ((E.leap x.y : Nat) : Int) then ((x.idx : Int) + 1) - 1 else ((x.idx : Int) + 1))) := by
  unfold monthWithLeap
  generalize E.leap x.y = lp
  simp only [decide_eq_true_eq]
  repeat' split
  all_goals omega

/-- the signed month `next` builds from a 1-based listing index constructs the month at that index -/
theorem fromYm_of_pos (E : Eph) (hl : ∀ y, E.leap y ≤ 12) (y m : Int) (hy : 0 ≤ y) (hy2 : y ≤ 9999)
    (h1 : 1 ≤ m) (h2 : m ≤ E.cnt y) :
    fromYm E y (if decide (((E.leap y : Nat) : Int) > 0 ∧ m = ((E.leap y : Nat) : Int) + 1) = true
                then -(if ((E.leap y : Nat) : Int) > 0 ∧ m > ((E.leap y : Nat) : Int) then m - 1 else m)
                else (if ((E.leap y : Nat) : Int) > 0 ∧ m > ((E.leap y : Nat) : Int) then m - 1 else m))
      = some ⟨y, (m - 1).toNat⟩ := by
  have := fromYm_mwl E hl ⟨y, (m - 1).toNat⟩ ⟨hy, hy2, by dsimp only; omega⟩
  have e : (((m - 1).toNat : Nat) : Int) + 1 = m := by omega
  rw [monthWithLeap_eq] at this
  dsimp only at this
  rw [e] at this
  exact this

/-- `next n`, n ≠ 0, once its loop has answered (m, y) — with y ≥ 0 if it was the backward loop, which may stop in year −1:
the month with 1-based index m of year y, n places further along the listing -/
theorem next_of_loop (E : Eph) (hl : ∀ y, E.leap y ≤ 12) (x : Month) (hx : WF E x) (n : Int) (hn : n ≠ 0) (m y : Int)
    (hloop : (if n > 0 then loopF E (n.natAbs + 1) ((x.idx : Int) + 1 + n) x.y
              else loopB E (n.natAbs + 1) ((x.idx : Int) + 1 + n) x.y) = some (m, y)) (hy0 : n < 0 → 0 ≤ y) :
    next E x n = some ⟨y, (m - 1).toNat⟩ ∧ WF E ⟨y, (m - 1).toNat⟩ ∧ gpos E ⟨y, (m - 1).toNat⟩ = gpos E x + n := by
  obtain ⟨hx1, hx2, hx3⟩ := hx
  have hb : 0 ≤ y ∧ y ≤ 9999 ∧ 1 ≤ m ∧ m ≤ E.cnt y ∧ cumI E y + m = cumI E x.y + ((x.idx : Int) + 1 + n) := by
    by_cases hpos : n > 0
    · rw [if_pos hpos] at hloop
      obtain ⟨i1, i2, i3, i4, i5⟩ := loopF_spec E _ _ _ (m, y) hx1 hx2 (by omega) hloop
      exact ⟨Int.le_trans hx1 i4, i5, i2, i3, i1⟩
    · rw [if_neg hpos] at hloop
      have hcx := cnt_cases E x.y
      obtain ⟨i1, i2, i3, i4⟩ := loopB_spec E _ _ _ (m, y) (by omega) hloop (hy0 (by omega))
      exact ⟨hy0 (by omega), Int.le_trans i4 hx2, i2, i3, i1⟩
  refine ⟨?_, ⟨hb.1, hb.2.1, by dsimp only; omega⟩, by unfold gpos; dsimp only; omega⟩
  unfold next
  rw [if_neg hn]
  dsimp only
  rw [hloop]
  exact fromYm_of_pos E hl y m hb.1 hb.2.1 hb.2.2.1 hb.2.2.2.1

theorem next_gpos (E : Eph) (hl : ∀ y, E.leap y ≤ 12) {x : Month} (hx : WF E x) {n : Int} {x' : Month}
    (h : next E x n = some x') : WF E x' ∧ gpos E x' = gpos E x + n := by
  have h0 := h
  unfold next at h
  split at h
  · rename_i hn
    subst hn
    rw [fromYm_mwl E hl x hx] at h
    cases h
    exact ⟨hx, by omega⟩
  · rename_i hn
    dsimp only at h
    split at h
    · cases h
    · rename_i m y hloop
      obtain ⟨e, w, g⟩ := next_of_loop E hl x hx n hn m y hloop fun _ => (fromYm_eq_some h).1
      rw [e] at h0
      cases h0
      exact ⟨w, g⟩

theorem next_total (E : Eph) (hl : ∀ y, E.leap y ≤ 12) (x : Month) (hx : WF E x) (n : Int)
    (h0 : 0 ≤ gpos E x + n) (h1 : gpos E x + n < cumI E 10000) :
    ∃ x', next E x n = some x' ∧ WF E x' ∧ gpos E x' = gpos E x + n := by
  by_cases hn : n = 0
  · refine ⟨x, ?_, hx, by omega⟩
    unfold next
    rw [if_pos hn]
    exact fromYm_mwl E hl x hx
  · have hg : gpos E x = cumI E x.y + x.idx := rfl
    have hcx := cnt_cases E x.y
    have hx3 := hx.2.2
    by_cases hpos : n > 0
    · obtain ⟨⟨m, y⟩, hr⟩ := loopF_total E (n.natAbs + 1) ((x.idx : Int) + 1 + n) x.y hx.1 hx.2.1 (by omega) (by omega) (by omega)
      exact ⟨_, next_of_loop E hl x hx n hn m y (by rw [if_pos hpos]; exact hr) fun h => absurd h (by omega)⟩
    · obtain ⟨⟨m, y⟩, hr, hr0⟩ := loopB_total E n.natAbs ((x.idx : Int) + 1 + n) x.y hx.1 (by omega) (by omega)
      exact ⟨_, next_of_loop E hl x hx n hn m y (by rw [if_neg hpos]; exact hr) fun _ => hr0⟩

theorem gpos_range (E : Eph) (x : Month) (hx : WF E x) :
    0 ≤ cumI E x.y ∧ gpos E x < cumI E (x.y + 1) ∧ cumI E (x.y + 1) ≤ cumI E 10000 := by
  have h0 := cumI_le_of_le E 0 x.y (Int.le_refl _) hx.1
  have := cumI_succ E x.y hx.1
  have := hx.2.2
  exact ⟨h0, by unfold gpos; omega, cumI_le_of_le E (x.y + 1) 10000 (by have := hx.1; omega) (by have := hx.2.1; omega)⟩

theorem next_iff (E : Eph) (hl : ∀ y, E.leap y ≤ 12) (x : Month) (hx : WF E x) (n : Int) (x' : Month) :
    next E x n = some x' ↔ WF E x' ∧ gpos E x' = gpos E x + n := by
  refine ⟨next_gpos E hl hx, fun ⟨w, p⟩ => ?_⟩
  obtain ⟨r0, r1, r2⟩ := gpos_range E x' w
  obtain ⟨x'', h, w'', p''⟩ := next_total E hl x hx n (by unfold gpos at p ⊢; omega) (by omega)
  rw [h, gpos_inj E w'' w (by omega)]

/-- steps compose, refusal included -/
theorem next_add (E : Eph) (hl : ∀ y, E.leap y ≤ 12) {x x1 : Month} (hx : WF E x) (a b : Int)
    (h1 : next E x a = some x1) : next E x1 b = next E x (a + b) := by
  obtain ⟨w1, p1⟩ := next_gpos E hl hx h1
  apply Option.ext
  intro r
  rw [next_iff E hl x1 w1 b r, next_iff E hl x hx (a + b) r, p1, Int.add_assoc]

theorem next_one_inv (E : Eph) (hl : ∀ y, E.leap y ≤ 12) {x r : Month} (hx : WF E x)
    (h : next E x 1 = some r) : WF E r ∧ r = succM E x := by
  obtain ⟨w', g'⟩ := next_gpos E hl hx h
  exact ⟨w', succM_of_gpos E hx w' g'⟩

theorem next_neg_one_inv (E : Eph) (hl : ∀ y, E.leap y ≤ 12) {x r : Month} (hx : WF E x)
    (h : next E x (-1) = some r) : WF E r ∧ x = succM E r := by
  obtain ⟨w', g'⟩ := next_gpos E hl hx h
  exact ⟨w', succM_of_gpos E w' hx (by omega)⟩

/-- `next(1)` is the successor in the listing; it is refused only after the last month of 9999 -/
theorem next_one (E : Eph) (hl : ∀ y, E.leap y ≤ 12) (x : Month) (hx : WF E x)
    (h : x.idx + 1 < E.cnt x.y ∨ x.y + 1 ≤ 9999) : next E x 1 = some (succM E x) :=
  (next_iff E hl x hx 1 _).2 ⟨WF_succM E x hx h, gpos_succM E x hx.1 hx.2.2⟩

/-- `next(-1)` is refused only at the first month of year 0 -/
theorem next_neg_one (E : Eph) (hl : ∀ y, E.leap y ≤ 12) (x : Month) (hx : WF E x)
    (h : ¬ (x.y = 0 ∧ x.idx = 0)) : ∃ r, next E x (-1) = some r ∧ WF E r ∧ x = succM E r := by
  obtain ⟨r0, r1, r2⟩ := gpos_range E x hx
  have h0 : 1 ≤ gpos E x := by
    unfold gpos
    by_cases hy : x.y = 0
    · omega
    · have := cumI_lt_of_lt E 0 x.y (Int.le_refl _) (by have := hx.1; omega)
      have : cumI E 0 = 0 := rfl
      have := cnt_cases E 0; omega
  obtain ⟨r, hr, _, _⟩ := next_total E hl x hx (-1) (by omega) (by omega)
  exact ⟨r, hr, next_neg_one_inv E hl hx hr⟩

end Tyme.Lunar

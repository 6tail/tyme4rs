import Tyme.Model.Jd
import Tyme.Spec.Civil
import Tyme.Lemmas.Steps

/-! Helper lemmas for C01 (day number ⇄ civil date). Core Lean only.

A lemma named after a function of the specification `Tyme.Civil` (`valid`, `leap`, `lastDay`, `next`, `lt`) is about the
specification; one named after `jdn`, `ofJdn`, `isLeap`, `monthLen`, `yearLen`, `solarDayOk` is about the model of tyme4rs.
Hypotheses on a date come in the order year, month, day: `hy : 1 ≤ y`, `hy2 : y ≤ 9999`, `hm : 1 ≤ m`, `hm2 : m ≤ 12`,
`hd : 1 ≤ d`, `hd2 : d ≤ 31`. -/
namespace Tyme

theorem valid_iff (y m d : Int) : Civil.valid y m d = true ↔
    (1 ≤ y ∧ y ≤ 9999 ∧ 1 ≤ m ∧ m ≤ 12 ∧ 1 ≤ d ∧ d ≤ Civil.lastDay y m ∧ ¬ (y = 1582 ∧ m = 10 ∧ 5 ≤ d ∧ d ≤ 14)) := by
  unfold Civil.valid
  simp only [Bool.and_eq_true, decide_eq_true_eq, Bool.not_eq_true', Bool.and_eq_false_iff, beq_eq_false_iff_ne, ne_eq,
    decide_eq_false_iff_not]
  omega

theorem leap_iff (y : Int) : Civil.leap y = true ↔
    ((y ≤ 1582 ∧ y % 4 = 0) ∨ (1582 < y ∧ y % 4 = 0 ∧ (y % 100 ≠ 0 ∨ y % 400 = 0))) := by
  unfold Civil.leap
  split <;> simp <;> omega

theorem lastDay_eq (y m : Int) :
    Civil.lastDay y m = (if m = 2 then (if Civil.leap y = true then 29 else 28)
      else if m = 4 ∨ m = 6 ∨ m = 9 ∨ m = 11 then 30 else 31) := by
  unfold Civil.lastDay
  simp only [beq_iff_eq, Bool.or_eq_true]
  congr 1
  simp only [or_assoc]

theorem lastDay_le (y m : Int) : 28 ≤ Civil.lastDay y m ∧ Civil.lastDay y m ≤ 31 := by
  rw [lastDay_eq]; repeat' split
  all_goals omega

theorem valid_bounds {y m d : Int} (hv : Civil.valid y m d = true) :
    1 ≤ y ∧ y ≤ 9999 ∧ 1 ≤ m ∧ m ≤ 12 ∧ 1 ≤ d ∧ d ≤ 31 := by
  obtain ⟨h1, h2, h3, h4, h5, h6, -⟩ := (valid_iff y m d).1 hv
  have := lastDay_le y m
  exact ⟨h1, h2, h3, h4, h5, by omega⟩

theorem valid_first (y m : Int) (hy : 1 ≤ y) (hy2 : y ≤ 9999) (hm : 1 ≤ m) (hm2 : m ≤ 12) : Civil.valid y m 1 = true := by
  have := lastDay_le y m
  rw [valid_iff]; omega

theorem floor1461 (k : Int) : (1461 * k) / 4 = 365 * k + k / 4 := by omega

theorem jdn_hi (y m d : Int) (h : 3 ≤ m) :
    jdn y m d = 365 * (y + 4716) + (y + 4716) / 4 + (306001 * (m + 1)) / 10000 + d
      + (if y * 372 + m * 31 + d ≥ 588829 then 2 - y / 100 + y / 100 / 4 else 0) - 1524 := by
  unfold jdn
  have h2 : ¬ m ≤ 2 := by omega
  simp only [h2, if_false, floor1461, decide_eq_true_eq]

theorem jdn_lo (y m d : Int) (h : m ≤ 2) :
    jdn y m d = 365 * (y + 4715) + (y + 4715) / 4 + (306001 * (m + 13)) / 10000 + d
      + (if y * 372 + m * 31 + d ≥ 588829 then 2 - (y - 1) / 100 + (y - 1) / 100 / 4 else 0) - 1524 := by
  unfold jdn
  simp only [h, if_true, floor1461, decide_eq_true_eq]
  have e1 : y - 1 + 4716 = y + 4715 := by omega
  have e2 : m + 12 + 1 = m + 13 := by omega
  rw [e1, e2]

theorem isLeap_iff (y : Int) : isLeap y = true ↔
    ((y < 1600 ∧ y % 4 = 0) ∨ (1600 ≤ y ∧ ((y % 4 = 0 ∧ y % 100 ≠ 0) ∨ y % 400 = 0))) := by
  unfold isLeap
  split <;> simp <;> omega

theorem monthLen_eq (y m : Int) : monthLen y m =
    if y = 1582 ∧ m = 10 then 21
    else if m = 2 then (if isLeap y = true then 29 else 28)
    else if m = 4 ∨ m = 6 ∨ m = 9 ∨ m = 11 then 30 else 31 := by
  unfold monthLen monthDaysTable
  simp only [Bool.and_eq_true, beq_iff_eq, Bool.or_eq_true, or_assoc]
  by_cases h : y = 1582 ∧ m = 10
  · simp [h]
  · simp only [h, if_false]
    by_cases h2 : m = 2
    · subst h2; simp
    · simp [h2]

theorem solarDayOk_iff (y m d : Int) : solarDayOk y m d = true ↔
    (1 ≤ y ∧ y ≤ 9999 ∧ 1 ≤ m ∧ m ≤ 12 ∧ 1 ≤ d ∧
      (if y = 1582 ∧ m = 10 then ¬ ((4 < d ∧ d < 15) ∨ 31 < d) else d ≤ monthLen y m)) := by
  unfold solarDayOk
  simp only [Bool.and_eq_true, decide_eq_true_eq, beq_iff_eq]
  by_cases h : y = 1582 ∧ m = 10
  · simp [h]; omega
  · simp only [h, if_false, decide_eq_true_eq]; omega

theorem monthLen_bounds (y m : Int) : 21 ≤ monthLen y m ∧ monthLen y m ≤ 31 := by
  rw [monthLen_eq]; repeat' split
  all_goals omega

theorem yearLen_bounds (y : Int) : 355 ≤ yearLen y ∧ yearLen y ≤ 366 := by
  unfold yearLen; repeat' split
  all_goals omega

theorem isLeap_eq_leap (y : Int) (hy : 1 ≤ y) (hy2 : y ≤ 9999) : isLeap y = Civil.leap y := by
  rw [Bool.eq_iff_iff, isLeap_iff, leap_iff]; omega

theorem monthLen_eq_lastDay (y m : Int) (hy : 1 ≤ y) (hy2 : y ≤ 9999) (hx : ¬ (y = 1582 ∧ m = 10)) :
    monthLen y m = Civil.lastDay y m := by
  rw [monthLen_eq, lastDay_eq, isLeap_eq_leap y hy hy2, if_neg hx]

/-! ### The day line: `jdn y m 1 = jdn y 1 1 + monthStart y m`, the days of a month consecutive from its first (`jdn_label`:
less ten from 1582-10-15 on), Jan 1 moving by `yearLen` -/

/-- the day of the month enters `jdn` as a summand and through the Gregorian flag only (any integers) -/
theorem jdn_day (y m d d' : Int)
    (h : y * 372 + m * 31 + d' ≥ 588829 ↔ y * 372 + m * 31 + d ≥ 588829) :
    jdn y m d' = jdn y m d + (d' - d) := by
  unfold jdn
  simp only [h]
  omega

/-- days of year y before the first of month m, 1 ≤ m ≤ 12 (`30.6001·(m+1)` is the month table of `jdn`) -/
def monthStart (y m : Int) : Int :=
  if m ≤ 2 then 31 * (m - 1)
  else (306001 * (m + 1)) / 10000 - 63 + (if isLeap y = true then 1 else 0) - (if y = 1582 ∧ 11 ≤ m then 10 else 0)

/-- the one place where the leap rule of `jdn` (⌊365.25·⌋ and the century correction) meets `isLeap` -/
theorem leap_day (y : Int) :
    (y + 4716) / 4 - (y + 4715) / 4 + (if 1583 ≤ y then (y - 1) / 100 - y / 100 + (y / 100 / 4 - (y - 1) / 100 / 4) else 0)
      = if isLeap y = true then 1 else 0 := by
  simp only [isLeap_iff]
  split <;> split <;> omega

theorem jdn_first_of_month (y m : Int) (hm : 1 ≤ m) (hm2 : m ≤ 12) :
    jdn y m 1 = jdn y 1 1 + monthStart y m := by
  have L := leap_day y
  unfold monthStart
  by_cases h2 : m ≤ 2
  · have f : y * 372 + m * 31 + 1 ≥ 588829 ↔ y * 372 + 1 * 31 + 1 ≥ 588829 := by omega
    rw [if_pos h2, jdn_lo y m 1 h2, jdn_lo y 1 1 (by decide)]
    simp only [f]
    have : m = 1 ∨ m = 2 := by omega
    rcases this with rfl | rfl <;> omega
  · rw [if_neg h2, jdn_hi y m 1 (by omega), jdn_lo y 1 1 (by decide)]
    generalize (306001 * (m + 1)) / 10000 = K
    by_cases h82 : y = 1582
    · subst h82
      have f1 : 1582 * 372 + m * 31 + 1 ≥ 588829 ↔ 11 ≤ m := by omega
      simp only [f1, true_and, show isLeap 1582 = false by decide, Bool.false_eq_true, if_false]
      split <;> omega
    · -- outside 1582 the flag of a first of month is that of January 1: the year is Gregorian or not
      have f1 : y * 372 + m * 31 + 1 ≥ 588829 ↔ 1583 ≤ y := by omega
      have f2 : y * 372 + 1 * 31 + 1 ≥ 588829 ↔ 1583 ≤ y := by omega
      simp only [f1, f2, h82, false_and, if_false]
      split at L <;> omega

theorem jdn_year_succ (y : Int) : jdn (y + 1) 1 1 = jdn y 1 1 + yearLen y := by
  have L := leap_day y
  rw [jdn_lo _ _ _ (by decide), jdn_lo _ _ _ (by decide)]
  unfold yearLen
  by_cases h82 : y = 1582
  · subst h82; decide
  · have f1 : (y + 1) * 372 + 1 * 31 + 1 ≥ 588829 ↔ 1583 ≤ y := by omega
    have f2 : y * 372 + 1 * 31 + 1 ≥ 588829 ↔ 1583 ≤ y := by omega
    simp only [f1, f2, beq_iff_eq, h82, if_false]
    split at L <;> split at L <;> rename_i hl <;> simp only [hl, if_true, Bool.false_eq_true, if_false] <;> omega

theorem monthStart_succ (y m : Int) (hm : 1 ≤ m) (hm2 : m ≤ 11) :
    monthStart y (m + 1) = monthStart y m + monthLen y m := by
  have hmm : m = 1 ∨ m = 2 ∨ m = 3 ∨ m = 4 ∨ m = 5 ∨ m = 6 ∨ m = 7 ∨ m = 8 ∨ m = 9 ∨ m = 10 ∨ m = 11 := by omega
  rw [monthLen_eq]
  unfold monthStart
  rcases hmm with rfl|rfl|rfl|rfl|rfl|rfl|rfl|rfl|rfl|rfl|rfl <;> simp <;> (repeat' split) <;> omega

theorem monthStart_dec (y : Int) : monthStart y 12 + 31 = yearLen y := by
  unfold monthStart yearLen
  by_cases h : y = 1582
  · subst h; decide
  · simp [h]; split <;> omega

theorem monthStart_bounds (y m : Int) (hm : 1 ≤ m) (hm2 : m ≤ 12) :
    0 ≤ monthStart y m ∧ monthStart y m + monthLen y m ≤ yearLen y := by
  have l := monthLen_bounds y m
  have : y = 1582 → isLeap y = false := by rintro rfl; decide
  unfold monthStart yearLen
  simp only [beq_iff_eq]
  repeat' split
  all_goals simp_all
  all_goals omega

theorem jdn_month_in_year (y m : Int) (hm : 1 ≤ m) (hm2 : m ≤ 12) :
    jdn y 1 1 ≤ jdn y m 1 ∧ jdn y m 1 + monthLen y m ≤ jdn (y + 1) 1 1 := by
  have := monthStart_bounds y m hm hm2
  rw [jdn_first_of_month y m hm hm2, jdn_year_succ]
  omega

/-- the first of a month and of its successor on the linear month index 12·year + month lie `monthLen` days apart -/
theorem jdn_month_succ_idx (y m y' m' : Int) (hm : 1 ≤ m) (hm2 : m ≤ 12) (hm' : 1 ≤ m') (hm2' : m' ≤ 12)
    (e : 12 * y' + m' = 12 * y + m + 1) : jdn y' m' 1 = jdn y m 1 + monthLen y m := by
  by_cases h : m = 12
  · obtain ⟨e1, e2⟩ : y' = y + 1 ∧ m' = 1 := by omega
    have : monthLen y 12 = 31 := by rw [monthLen_eq]; simp
    rw [e1, e2, h, jdn_year_succ, jdn_first_of_month y 12 (by decide) (by decide), ← monthStart_dec]
    omega
  · obtain ⟨e1, e2⟩ : y' = y ∧ m' = m + 1 := by omega
    rw [e1, e2, jdn_first_of_month y (m + 1) (by omega) (by omega), jdn_first_of_month y m hm hm2,
      monthStart_succ y m hm (by omega)]
    omega

theorem jdn_month_succ (y m : Int) (hm : 1 ≤ m) (hm2 : m ≤ 12) :
    jdn (if m = 12 then y + 1 else y) (if m = 12 then 1 else m + 1) 1 = jdn y m 1 + monthLen y m :=
  jdn_month_succ_idx y m _ _ hm hm2 (by split <;> omega) (by split <;> omega) (by split <;> omega)

theorem jdn_last_day (y m : Int) (hy : 1 ≤ y) (hy2 : y ≤ 9999) (hm : 1 ≤ m) (hm2 : m ≤ 12) :
    jdn y m (Civil.lastDay y m) = jdn y m 1 + monthLen y m - 1 := by
  by_cases hx : y = 1582 ∧ m = 10
  · obtain ⟨rfl, rfl⟩ := hx; decide
  · have l := lastDay_le y m
    rw [monthLen_eq_lastDay y m hy hy2 hx, jdn_day y m 1 _ (by omega)]
    omega

/-- day number against day label inside a month: the labels of a month are consecutive on the day line, except that
the labels 15..31 of October 1582 lie ten day numbers lower than counting from the 1st would give -/
theorem jdn_label (y m d : Int) (hm : 1 ≤ m) (hm2 : m ≤ 12) (hd : 1 ≤ d) (hd2 : d ≤ 31)
    (hx : ¬ (y = 1582 ∧ m = 10 ∧ 5 ≤ d ∧ d ≤ 14)) :
    jdn y m d = jdn y m 1 + d - 1 - (if y = 1582 ∧ m = 10 ∧ 15 ≤ d then 10 else 0) := by
  split
  · rename_i h
    obtain ⟨rfl, rfl, h⟩ := h
    rw [jdn_day 1582 10 15 d (by omega), show jdn 1582 10 15 = jdn 1582 10 1 + 4 by decide]; omega
  · rw [jdn_day y m 1 d (by omega)]; omega

theorem jdn_in_month (y m d : Int) (hv : Civil.valid y m d = true) :
    jdn y m 1 ≤ jdn y m d ∧ jdn y m d < jdn y m 1 + monthLen y m := by
  obtain ⟨h1, h2, h3, h4, h5, h6, h7⟩ := (valid_iff y m d).1 hv
  have l := lastDay_le y m
  have e := jdn_label y m d h3 h4 h5 (by omega) h7
  by_cases hx : y = 1582 ∧ m = 10
  · obtain ⟨rfl, rfl⟩ := hx
    have : monthLen 1582 10 = 21 := by decide
    split at e <;> omega
  · rw [if_neg (fun h => hx ⟨h.1, h.2.1⟩)] at e
    rw [monthLen_eq_lastDay y m h1 h2 hx]; omega

theorem jdn_year_bounds (y m d : Int) (hv : Civil.valid y m d = true) :
    jdn y 1 1 ≤ jdn y m d ∧ jdn y m d < jdn (y + 1) 1 1 := by
  obtain ⟨h1, h2, h3, h4, h5, h6, h7⟩ := (valid_iff y m d).1 hv
  have a := jdn_in_month y m d hv
  have b := jdn_month_in_year y m h3 h4
  omega

/-- January firsts are at least 355 days apart per year -/
theorem jdn_jan1_gap (a b : Int) (h : a ≤ b) : jdn a 1 1 + 355 * (b - a) ≤ jdn b 1 1 :=
  gapI_of_step (T := fun y => jdn y 1 1) (a := a) (N := b)
    (fun y _ _ => by have := yearLen_bounds y; rw [jdn_year_succ]; omega) (Int.le_refl a) h (Int.le_refl b)

theorem jdn_jan1_le (a b : Int) (h : a ≤ b) : jdn a 1 1 ≤ jdn b 1 1 := by
  have := jdn_jan1_gap a b h
  omega

theorem jdn_next (y m d : Int) (hv : Civil.valid y m d = true) (hne : ¬ (y = 9999 ∧ m = 12 ∧ d = 31)) :
    jdn (Civil.next y m d).1 (Civil.next y m d).2.1 (Civil.next y m d).2.2 = jdn y m d + 1 := by
  obtain ⟨h1, h2, h3, h4, h5, h6, h7⟩ := (valid_iff y m d).1 hv
  have l := lastDay_le y m
  unfold Civil.next
  simp only [beq_iff_eq, Bool.and_eq_true]
  split
  · rename_i hc; obtain ⟨⟨rfl, rfl⟩, rfl⟩ := hc; decide
  · split
    · -- inside the month: the flag changes between d and d + 1 only at 1582-10-14, which does not exist
      have := jdn_day y m d (d + 1) (by omega)
      dsimp only; omega
    · have hd : d = Civil.lastDay y m := by omega
      have hs := jdn_month_succ y m h3 h4
      rw [hd, jdn_last_day y m h1 h2 h3 h4]
      split
      · rw [if_neg (by omega), if_neg (by omega)] at hs; dsimp only; omega
      · rw [if_pos (by omega), if_pos (by omega)] at hs; dsimp only; omega

def jdnFirst : Int := 1721424
def jdnLast : Int := 5373484

theorem jdn_0001_01_01 : jdn 1 1 1 = jdnFirst := by decide
theorem jdn_9999_12_31 : jdn 9999 12 31 = jdnLast := by decide

theorem jdn_le_last (y m d : Int) (hv : Civil.valid y m d = true) : jdn y m d ≤ jdnLast := by
  obtain ⟨h1, h2, -⟩ := (valid_iff y m d).1 hv
  have a := (jdn_year_bounds y m d hv).2
  have b := jdn_jan1_le (y + 1) 10000 (by omega)
  have : jdn 10000 1 1 = jdnLast + 1 := by decide
  omega

theorem jdn_ge_first (y m d : Int) (hv : Civil.valid y m d = true) : jdnFirst ≤ jdn y m d := by
  obtain ⟨h1, -⟩ := (valid_iff y m d).1 hv
  have a := (jdn_year_bounds y m d hv).1
  have b := jdn_jan1_le 1 y h1
  have := jdn_0001_01_01
  omega

/-- the Gregorian flag of `jdn` is the threshold test of `ofJdn` -/
theorem flag_iff_threshold (y m d : Int) (hv : Civil.valid y m d = true) :
    y * 372 + m * 31 + d ≥ 588829 ↔ jdn y m d ≥ 2299161 := by
  obtain ⟨h1, h2, h3, h4, h5, h6, h7⟩ := (valid_iff y m d).1 hv
  have l := lastDay_le y m
  have a := jdn_year_bounds y m d hv
  rcases Int.lt_trichotomy y 1582 with h | rfl | h
  · have := jdn_jan1_le (y + 1) 1582 (by omega)
    have : jdn 1582 1 1 = 2298884 := by decide
    omega
  · by_cases hlo : m ≤ 2
    · rw [jdn_lo _ _ _ hlo]
      split <;> omega
    · rw [jdn_hi _ _ _ (by omega)]
      split <;> omega
  · have := jdn_jan1_le 1583 y (by omega)
    have : jdn 1583 1 1 = 2299239 := by decide
    omega

theorem core_year (Y K : Int) (hK : 123 ≤ K) (hK2 : K ≤ 487 ∨ (K = 488 ∧ Y % 4 = 3)) :
    (20 * (365 * Y + Y / 4 + K) - 2442) / 7305 = Y := by omega

/-- Gregorian correction: the century counter of the inverse is y / 100 − 4 -/
theorem greg_century (y K : Int) (hK : 123 ≤ K)
    (hK2 : K ≤ 487 ∨ (K = 488 ∧ (y + 1) % 4 = 0 ∧ ((y + 1) % 100 ≠ 0 ∨ (y + 1) % 400 = 0))) :
    (4 * (365 * (y + 4716) + (y + 4716) / 4 + K + (2 - y / 100 + y / 100 / 4) - 1524) - 7468865) / 146097
      = y / 100 - 4 := by
  generalize hA : y / 100 = a at *
  generalize hB : a / 4 = b at *
  generalize hQ : (y + 4716) / 4 = q at *
  have hs : a % 4 = 0 ∨ a % 4 = 1 ∨ a % 4 = 2 ∨ a % 4 = 3 := by omega
  have hq : q = 25 * a + (y - 100 * a + 4716) / 4 := by omega
  rcases hK2 with hK2 | ⟨hK2, h4, h100⟩
  · rcases hs with h0 | h0 | h0 | h0 <;> omega
  · subst hK2
    have hr : y - 100 * a ≤ 98 ∨ (y - 100 * a = 99 ∧ a % 4 = 3) := by omega
    rcases hr with hr | ⟨hr, h3⟩
    · rcases hs with h0 | h0 | h0 | h0 <;> omega
    · omega

/-- the last two steps of `ofJdn`: month and day out of K (day of the March-based year + 122), and the civil year out
of the March-based one; the Julian and the Gregorian branch of `ofJdn` end in it -/
def decodeK (Y K : Int) : Int × Int × Int :=
  let mo := (1000 * K) / 30601
  let d3 := K - (30601 * mo) / 1000
  if mo > 13 then (Y - 4715, mo - 13, d3) else (Y - 4716, mo - 1, d3)

theorem ofJdn_julian (Y K : Int) (hK : 123 ≤ K) (hK2 : K ≤ 487 ∨ (K = 488 ∧ Y % 4 = 3))
    (hlt : 365 * Y + Y / 4 + K - 1524 < 2299161) :
    ofJdn (365 * Y + Y / 4 + K - 1524) = decodeK Y K := by
  unfold ofJdn decodeK
  have h1 : ¬ (365 * Y + Y / 4 + K - 1524 ≥ 2299161) := by omega
  simp only [h1, if_false]
  have e : 365 * Y + Y / 4 + K - 1524 + 1524 = 365 * Y + Y / 4 + K := by omega
  simp only [e, core_year Y K hK hK2, floor1461]
  have e2 : 365 * Y + Y / 4 + K - (365 * Y + Y / 4) = K := by omega
  simp only [e2]

theorem ofJdn_greg (y K : Int) (hK : 123 ≤ K)
    (hK2 : K ≤ 487 ∨ (K = 488 ∧ (y + 1) % 4 = 0 ∧ ((y + 1) % 100 ≠ 0 ∨ (y + 1) % 400 = 0)))
    (hge : 365 * (y + 4716) + (y + 4716) / 4 + K + (2 - y / 100 + y / 100 / 4) - 1524 ≥ 2299161) :
    ofJdn (365 * (y + 4716) + (y + 4716) / 4 + K + (2 - y / 100 + y / 100 / 4) - 1524) = decodeK (y + 4716) K := by
  unfold ofJdn decodeK
  simp only [hge, if_true, greg_century y K hK hK2]
  have hc4 : (y / 100 - 4) / 4 = y / 100 / 4 - 1 := by omega
  have e : 365 * (y + 4716) + (y + 4716) / 4 + K + (2 - y / 100 + y / 100 / 4) - 1524 + 1 + (y / 100 - 4) - (y / 100 - 4) / 4 + 1524
      = 365 * (y + 4716) + (y + 4716) / 4 + K := by omega
  have hK2' : K ≤ 487 ∨ (K = 488 ∧ (y + 4716) % 4 = 3) := by omega
  simp only [e, core_year (y + 4716) K hK hK2', floor1461]
  have e2 : 365 * (y + 4716) + (y + 4716) / 4 + K - (365 * (y + 4716) + (y + 4716) / 4) = K := by omega
  simp only [e2]

theorem decode_ok (Y m' d : Int) (hm : 3 ≤ m') (hm2 : m' ≤ 14) (hd : 1 ≤ d) (hd2 : d ≤ 31)
    (h30 : (m' = 4 ∨ m' = 6 ∨ m' = 9 ∨ m' = 11 ∨ m' = 14) → d ≤ 30) :
    decodeK Y ((306001 * (m' + 1)) / 10000 + d) =
      if m' > 12 then (Y - 4715, m' - 12, d) else (Y - 4716, m', d) := by
  have hm : m' = 3 ∨ m' = 4 ∨ m' = 5 ∨ m' = 6 ∨ m' = 7 ∨ m' = 8 ∨ m' = 9 ∨ m' = 10 ∨ m' = 11 ∨ m' = 12 ∨ m' = 13 ∨ m' = 14 := by omega
  unfold decodeK
  rcases hm with rfl|rfl|rfl|rfl|rfl|rfl|rfl|rfl|rfl|rfl|rfl|rfl
  all_goals (
    simp at h30
    simp only [Int.reduceAdd, Int.reduceMul, Int.reduceDiv, Int.reduceSub, Int.reduceGT, if_true, if_false]
    split <;> (simp only [Prod.mk.injEq, true_and]; omega))

/-- the inverse in March-based coordinates (year y', month m' = 3..14), Julian and Gregorian side at once -/
theorem ofJdn_march (y' m' d N : Int) (g : Prop) [Decidable g] (hm : 3 ≤ m') (hm2 : m' ≤ 14) (hd : 1 ≤ d) (hd2 : d ≤ 31)
    (h30 : (m' = 4 ∨ m' = 6 ∨ m' = 9 ∨ m' = 11 ∨ m' = 14) → d ≤ 30)
    (hfeb : m' = 14 → d ≤ 28 ∨ (d = 29 ∧ (y' + 1) % 4 = 0 ∧ (¬ g ∨ (y' + 1) % 100 ≠ 0 ∨ (y' + 1) % 400 = 0)))
    (hN : N = 365 * (y' + 4716) + (y' + 4716) / 4 + (306001 * (m' + 1) / 10000 + d)
      + (if g then 2 - y' / 100 + y' / 100 / 4 else 0) - 1524)
    (hg : g ↔ N ≥ 2299161) :
    ofJdn N = if m' > 12 then (y' + 1, m' - 12, d) else (y', m', d) := by
  have hK1 : 123 ≤ 306001 * (m' + 1) / 10000 + d := by omega
  have hK2 : 306001 * (m' + 1) / 10000 + d ≤ 487 ∨ (306001 * (m' + 1) / 10000 + d = 488 ∧ (y' + 1) % 4 = 0 ∧
      (¬ g ∨ (y' + 1) % 100 ≠ 0 ∨ (y' + 1) % 400 = 0)) := by
    by_cases h14 : m' = 14
    · rcases hfeb h14 with h' | h'
      · left; omega
      · right; exact ⟨by omega, h'.2⟩
    · left; omega
  have hdec := decode_ok (y' + 4716) m' d hm hm2 hd hd2 h30
  rw [show y' + 4716 - 4715 = y' + 1 by omega, show y' + 4716 - 4716 = y' by omega] at hdec
  by_cases h : g
  · rw [if_pos h] at hN
    rw [hN] at hg ⊢
    rw [ofJdn_greg y' _ hK1 (hK2.imp id fun h' => ⟨h'.1, h'.2.1, h'.2.2.resolve_left fun hn => hn h⟩) (hg.1 h), hdec]
  · rw [if_neg h, Int.add_zero] at hN
    rw [hN] at hg ⊢
    rw [ofJdn_julian (y' + 4716) _ hK1 (by rcases hK2 with h' | h' <;> omega)
      (by have := mt hg.2 h; omega), hdec]

theorem ofJdn_jdn (y m d : Int) (hv : Civil.valid y m d = true) : ofJdn (jdn y m d) = (y, m, d) := by
  obtain ⟨h1, h2, h3, h4, h5, h6, h7⟩ := (valid_iff y m d).1 hv
  have hthr := flag_iff_threshold y m d hv
  have l := lastDay_le y m
  rw [lastDay_eq] at h6
  simp only [leap_iff] at h6
  by_cases hlo : m ≤ 2
  · -- January and February are months 13 and 14 of the year before
    rw [ofJdn_march (y - 1) (m + 12) d _ _ (by omega) (by omega) h5 (by omega)
      (by intro h; repeat' split at h6 <;> omega) (by intro h; repeat' split at h6 <;> omega)
      (by rw [jdn_lo y m d hlo]; omega) hthr, if_pos (by omega), show y - 1 + 1 = y by omega,
      show m + 12 - 12 = m by omega]
  · rw [ofJdn_march y m d _ _ (by omega) (by omega) h5 (by omega)
      (by intro h; repeat' split at h6 <;> omega) (by omega)
      (by rw [jdn_hi y m d (by omega)]; omega) hthr, if_neg (by omega)]

/-! ### dates as triples

The model's `dayNext`, `daySub`, `dayBefore` take a date as a triple, and `Civil.iter` (the n-fold successor of the
specification) produces one; `Civil.validT` and `jdnT` are `Civil.valid` and `jdn` on a triple. The lemmas up to here
take `y m d` apart; `iter_spec`, `jdn_inj`, `jdn_surj` and `ofJdn_jdnT` speak of triples. -/

def Civil.iter : Nat → Int × Int × Int → Int × Int × Int
  | 0, x => x
  | n+1, x => Civil.iter n (Civil.next x.1 x.2.1 x.2.2)
def Civil.validT (x : Int × Int × Int) : Bool := Civil.valid x.1 x.2.1 x.2.2
def jdnT (x : Int × Int × Int) : Int := jdn x.1 x.2.1 x.2.2

theorem next_valid (y m d : Int) (hv : Civil.valid y m d = true) (hne : ¬ (y = 9999 ∧ m = 12 ∧ d = 31)) :
    Civil.validT (Civil.next y m d) = true := by
  obtain ⟨h1, h2, h3, h4, h5, h6, h7⟩ := (valid_iff y m d).1 hv
  unfold Civil.validT Civil.next
  simp only [beq_iff_eq, Bool.and_eq_true]
  split
  · decide
  · split
    · rw [valid_iff]; dsimp only; omega
    · split
      · exact valid_first y (m + 1) h1 h2 (by omega) (by omega)
      · have hm : m = 12 := by omega
        subst hm
        have : Civil.lastDay y 12 = 31 := by rw [lastDay_eq]; simp
        exact valid_first (y + 1) 1 (by omega) (by omega) (by decide) (by decide)

theorem lt_next (y m d : Int) (hv : Civil.valid y m d = true) : Civil.lt (y, m, d) (Civil.next y m d) := by
  obtain ⟨h1,h2,h3,h4,h5,h6,h7⟩ := (valid_iff y m d).1 hv
  unfold Civil.lt Civil.next
  simp only [beq_iff_eq, Bool.and_eq_true]
  repeat' split
  all_goals (dsimp only; omega)

theorem lt_trans' {a b c : Int × Int × Int} (h1 : Civil.lt a b) (h2 : Civil.lt b c) : Civil.lt a c := by
  unfold Civil.lt at *; omega

theorem lt_irrefl' (a : Int × Int × Int) : ¬ Civil.lt a a := by
  unfold Civil.lt; omega

theorem lt_trichotomy' (a b : Int × Int × Int) : Civil.lt a b ∨ a = b ∨ Civil.lt b a := by
  obtain ⟨a1, a2, a3⟩ := a
  obtain ⟨b1, b2, b3⟩ := b
  unfold Civil.lt
  simp only [Prod.mk.injEq]
  omega

theorem iter_spec : ∀ (n : Nat) (x : Int × Int × Int), Civil.validT x = true → jdnT x + n ≤ jdnLast →
    Civil.validT (Civil.iter n x) = true ∧ jdnT (Civil.iter n x) = jdnT x + n ∧ (0 < n → Civil.lt x (Civil.iter n x)) := by
  intro n
  induction n with
  | zero => intro x hv _; simp [Civil.iter, hv]
  | succ n ih =>
    intro x hv hle
    obtain ⟨y, m, d⟩ := x
    have hne : ¬ (y = 9999 ∧ m = 12 ∧ d = 31) := by
      rintro ⟨rfl, rfl, rfl⟩
      have : jdnT (9999, 12, 31) = jdnLast := jdn_9999_12_31
      omega
    have hv' := next_valid y m d hv hne
    have hj' : jdnT (Civil.next y m d) = jdnT (y, m, d) + 1 := jdn_next y m d hv hne
    have := ih (Civil.next y m d) hv' (by rw [hj']; omega)
    obtain ⟨i1, i2, i3⟩ := this
    refine ⟨i1, ?_, ?_⟩
    · show jdnT (Civil.iter n (Civil.next y m d)) = _
      rw [i2, hj']; omega
    · intro _
      have hl := lt_next y m d hv
      by_cases hn : 0 < n
      · exact lt_trans' hl (i3 hn)
      · have : n = 0 := by omega
        subst this; exact hl

theorem ofJdn_jdnT {x : Int × Int × Int} (hv : Civil.validT x = true) : ofJdn (jdnT x) = x := ofJdn_jdn _ _ _ hv

theorem jdn_inj (a b : Int × Int × Int) (ha : Civil.validT a = true) (hb : Civil.validT b = true)
    (h : jdnT a = jdnT b) : a = b := by
  rw [← ofJdn_jdnT ha, h, ofJdn_jdnT hb]

theorem jdn_surj (j : Int) (h1 : jdnFirst ≤ j) (h2 : j ≤ jdnLast) :
    ∃ x, Civil.validT x = true ∧ jdnT x = j := by
  have hv : Civil.validT (1, 1, 1) = true := by decide
  have hf : jdnT (1, 1, 1) = jdnFirst := jdn_0001_01_01
  have := iter_spec (j - jdnFirst).toNat (1, 1, 1) hv (by rw [hf]; omega)
  exact ⟨_, this.1, by rw [this.2.1, hf]; omega⟩

end Tyme

import Tyme.Model.LeapTable
/-!
The model's `walk` over the decoded leap-month lists compares the year with all twelve cursors twice a year
(`hitsAt`, `advance`).  `popWalk` only follows the extension: the list the extension names for a year must have that
year in front and gives it up; in the end every list is used up.  Whatever passes `popWalk` passes `walk`
(`walk_of_popWalk`): when a year is taken off one list, every other front year is a later one, because each of them is
taken off later.  The kernel evaluates `popWalk`, one cursor per year, instead of `walk`.
-/
namespace Tyme.Leap

/-- take year `y` off the front of list number `m` (1-based; `m = 0`: nothing to take); `none` if it is not there -/
def popAt (y : Nat) : Nat → List (List Nat) → Option (List (List Nat))
  | 0, ls => some ls
  | _+1, [] => none
  | 1, l :: ls => match l with
    | h :: t => if h = y then some (t :: ls) else none
    | [] => none
  | m+2, l :: ls => (popAt y (m+1) ls).map (l :: ·)

/-- read the lists off against the extension, year by year from `y` on -/
def popWalk : List (List Nat) → List Nat → Nat → Bool
  | cur, [], _ => cur.all (· == [])
  | cur, e :: es, y => match popAt y e cur with
    | none => false
    | some cur' => popWalk cur' es (y + 1)

/-- a cursor whose front year is later than `y` is passed over -/
theorem step_cons {y : Nat} {l : List Nat} (hl : ∀ h ∈ l.head?, y < h) (X : List (List Nat)) (m : Nat) :
    hitsAt y (l :: X) m = hitsAt y X (m + 1) ∧ advance y (l :: X) = (advance y X).map (l :: ·) := by
  cases l with
  | nil => cases h : advance y X <;> simp [hitsAt, advance, h]
  | cons a t =>
    have := hl a rfl
    have e1 : ¬ a = y := by omega
    have e2 : ¬ a < y := by omega
    cases h : advance y X <;> simp [hitsAt, advance, h, e1, e2]

theorem step_none {y : Nat} : ∀ (L : List (List Nat)) (m : Nat), (∀ l ∈ L, ∀ h ∈ l.head?, y < h) →
    hitsAt y L m = (0, 0) ∧ advance y L = some L
  | [], _, _ => ⟨rfl, rfl⟩
  | l :: ls, m, h => by
    obtain ⟨h1, h2⟩ := step_none ls (m + 1) fun l' hl' => h l' (List.mem_cons_of_mem _ hl')
    obtain ⟨a1, a2⟩ := step_cons (h l (by simp)) ls m
    exact ⟨a1.trans h1, by rw [a2, h2]; rfl⟩

/-- year `y` comes off list `e` and all fronts left behind are later years: then `walk`'s step at `y` finds exactly
month `e`, moves to the same lists, and no front was earlier than `y` -/
theorem step_popAt {y : Nat} : ∀ (e : Nat) (L L' : List (List Nat)) (m : Nat), popAt y e L = some L' →
    (∀ l ∈ L', ∀ h ∈ l.head?, y < h) →
    hitsAt y L m = (if e = 0 then (0, 0) else (m + e - 1, 1)) ∧ advance y L = some L' ∧ ∀ l ∈ L, ∀ h ∈ l.head?, y ≤ h
  | 0, L, L', m, hp, hl => by
    cases hp
    obtain ⟨h1, h2⟩ := step_none L m hl
    exact ⟨h1, h2, fun l hm h hh => Nat.le_of_lt (hl l hm h hh)⟩
  | _+1, [], _, _, hp, _ => by cases hp
  | 1, l :: ls, L', m, hp, hl => by
    cases l with
    | nil => cases hp
    | cons a t =>
      simp only [popAt] at hp
      split at hp
      · rename_i ha
        cases hp; subst ha
        have hls := fun l' hl' => hl l' (List.mem_cons_of_mem _ hl')
        obtain ⟨h1, h2⟩ := step_none ls (m + 1) hls
        refine ⟨by simp [hitsAt, h1], by simp [advance, h2], fun l hm h hh => ?_⟩
        rcases List.mem_cons.mp hm with rfl | hm
        · cases hh; exact Nat.le_refl _
        · exact Nat.le_of_lt (hls l hm h hh)
      · cases hp
  | e+2, l :: ls, L', m, hp, hl => by
    simp only [popAt, Option.map_eq_some_iff] at hp
    obtain ⟨r, hr, rfl⟩ := hp
    obtain ⟨h1, h2, h3⟩ := step_popAt (e+1) ls r (m + 1) hr fun l' hl' => hl l' (List.mem_cons_of_mem _ hl')
    obtain ⟨a1, a2⟩ := step_cons (hl l (by simp)) ls m
    refine ⟨by rw [a1, h1]; simp; omega, by rw [a2, h2]; rfl, fun l' hm h hh => ?_⟩
    rcases List.mem_cons.mp hm with rfl | hm
    · exact Nat.le_of_lt (hl _ (by simp) h hh)
    · exact h3 l' hm h hh

/-- whatever `popWalk` accepts, the model's `walk` accepts (and no front year lies before the start) -/
theorem walk_of_popWalk : ∀ (es : List Nat) (L : List (List Nat)) (y : Nat), popWalk L es y = true →
    walk L es y = true ∧ ∀ l ∈ L, ∀ h ∈ l.head?, y ≤ h
  | [], L, y, h => by
    refine ⟨h, fun l hl a ha => ?_⟩
    simp only [popWalk, List.all_eq_true, beq_iff_eq] at h
    rw [h l hl] at ha; cases ha
  | e :: es, L, y, h => by
    simp only [popWalk] at h
    split at h
    · cases h
    · rename_i L' hp
      obtain ⟨hw, hl⟩ := walk_of_popWalk es L' (y + 1) h
      obtain ⟨h1, h2, h3⟩ := step_popAt e L L' 1 hp hl
      refine ⟨?_, h3⟩
      rw [walk, h1, h2]
      by_cases he : e = 0 <;> simp [he, hw]

theorem tableOK_of_popWalk {alphabet : List Nat} {raw : List (List Nat)} {ext : List Nat}
    (h : ((decodeAll alphabet raw).any fun L => L.length == 12 && popWalk L ext 0) = true) :
    tableOK alphabet raw ext = true := by
  unfold tableOK
  cases hd : decodeAll alphabet raw with
  | none => rw [hd] at h; cases h
  | some L =>
    rw [hd, Option.any_some, Bool.and_eq_true] at h
    simp only [h.1, (walk_of_popWalk ext L 0 h.2).1, Bool.and_self]

end Tyme.Leap

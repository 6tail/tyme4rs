import Tyme.Lemmas.EphFacts
/-!
TOTALITY of `SolarDay::get_lunar_day` inside a tiling interval: the guessed month exists, each step of the walk exists
(`LunarMonth::next(±1)` is the successor / predecessor of the month listing), and the fuel of 40 rounds each way covers
the distance because a round moves 29 or 30 days.
-/
namespace Tyme.Lunar
open Tyme

/-- backward walk: returns as long as the fuel covers the distance (29 days per round) -/
theorem walkBack_total {E : Eph} {a b : Int} (ht : TilesOn E a b) (hl : ∀ y, E.leap y ≤ 12) (ha0 : 0 ≤ a) {j : Int}
    (hlo : first E ⟨a, 0⟩ ≤ j) :
    ∀ (f : Nat) {x : Month} {days : Int}, LWk.okOn E a b x →
      days = j - first E x → -(29 * (f : Int)) ≤ days →
      ∃ x' d', walkBack E (f + 1) x days = some (x', d') ∧ (d' = days ∨ d' < 30) := by
  intro f
  induction f with
  | zero =>
    intro x days _ _ h
    have : ¬ (days < 0) := by omega
    simp only [walkBack, this, if_false]
    exact ⟨_, _, rfl, Or.inl rfl⟩
  | succ f ih =>
    intro x days hx hd h
    by_cases hneg : days < 0
    · have hne : ¬ (x.y = 0 ∧ x.idx = 0) := by
        rintro ⟨h1, h2⟩
        have : x = ⟨a, 0⟩ := by cases x; have := hx.2.1; simp_all; omega
        rw [this] at hd; omega
      obtain ⟨x', hn, _⟩ := next_neg_one E hl x hx.1 hne
      obtain ⟨hx', e, hlen⟩ := step_back ht hl hx hn (by omega)
      obtain ⟨x1, d1, hr, hbd⟩ := ih (days := days + len E x') hx' (by omega) (by push_cast at h ⊢; omega)
      refine ⟨x1, d1, ?_, by omega⟩
      rw [walkBack]
      simp only [hneg, if_true, hn]
      exact hr
    · simp only [walkBack, hneg, if_false]
      exact ⟨_, _, rfl, Or.inl rfl⟩

theorem walkFwd_total {E : Eph} {a b : Int} (ht : TilesOn E a b) (hl : ∀ y, E.leap y ≤ 12) (hb9 : b + 1 ≤ 9999) {j : Int}
    (hhi : j < first E ⟨b + 1, 0⟩) :
    ∀ (f : Nat) {x : Month} {days : Int}, LWk.okOn E a b x →
      days = j - first E x → 0 ≤ days → days < 29 * ((f : Int) + 1) →
      ∃ x' d', walkFwd E (f + 1) x days = some (x', d') := by
  intro f
  induction f with
  | zero =>
    intro x days hx _ _ h
    have hlen := (hx.step ht).2
    have : ¬ (days ≥ len E x) := by omega
    simp only [walkFwd, this, if_false]
    exact ⟨_, _, rfl⟩
  | succ f ih =>
    intro x days hx hd h0 h
    have hlen := (hx.step ht).2
    by_cases hge : days ≥ len E x
    · have hn := next_one E hl x hx.1 (Or.inr (by have := hx.2.2; omega))
      obtain ⟨hx', e⟩ := step_fwd ht hl hx hn (by omega)
      obtain ⟨x1, d1, hr⟩ := ih (days := days - len E x) hx' (by omega) (by omega) (by push_cast at h ⊢; omega)
      refine ⟨x1, d1, ?_⟩
      rw [walkFwd]
      simp only [hge, if_true, hn]
      exact hr
    · simp only [walkFwd, hge, if_false]
      exact ⟨_, _, rfl⟩

/-- the guess of `get_lunar_day`: the lunar month numbered like the civil month, of the lunar year numbered like the civil year -/
theorem guess_some (E : Eph) (hl : ∀ y, E.leap y ≤ 12) (Y M : Int) (hY : 0 ≤ Y ∧ Y ≤ 9999) (hM : 1 ≤ M ∧ M ≤ 12) :
    ∃ x0, fromYm E Y M = some x0 ∧ WF E x0 ∧ x0.y = Y := by
  have h0 := fromYm_of_valid E hY.1 hY.2 (by omega) (by omega) hM.2 (by omega)
  exact ⟨_, h0, fromYm_WF E hl h0⟩

end Tyme.Lunar

namespace Tyme.Cont
open Tyme Lunar

/-- The fuel argument, for both directions of the walk: lunar year Y begins at most 5 days before January 1 of civil year Y
and ends at most 59 days after January 1 of Y + 1 (`NewYearFacts`), so a month of lunar year Y begins less than 430 days
from any date of civil year Y — 15 rounds of 29 days, against a fuel of 40. -/
theorem guess_near {E : Eph} {a b : Int} (ht : TilesOn E a b) (nf : NewYearFacts E) {Y M D : Int} (hv : Civil.valid Y M D = true)
    (h9 : Y + 1 ≤ 9999) {x0 : Month} (hx : LWk.okOn E a b x0) (hxY : x0.y = Y) :
    -430 < jdn Y M D - first E x0 ∧ jdn Y M D - first E x0 < 430 := by
  obtain ⟨hY1, _⟩ := (valid_iff Y M D).1 hv
  obtain ⟨yb1, yb2⟩ := jdn_year_bounds Y M D hv
  obtain ⟨m1, m2⟩ := month_in_year ht hx
  rw [hxY] at m1 m2
  have hlen := (hx.step ht).2
  have nyY := (nf.winI Y hY1 (by omega)).1
  have nyY1 := (nf.winI (Y + 1) (by omega) h9).2
  have js := jan1_step Y
  omega

/-- `SolarDay::get_lunar_day` returns for every civil date inside a tiling interval (the fuel of 40 rounds suffices) -/
theorem ofSolar_total (E : Eph) (hl : ∀ y, E.leap y ≤ 12) (nf : NewYearFacts E) (hF1 : 1721424 ≤ E.mFirst 1 0) (a b : Int)
    (ha0 : 0 ≤ a) (hb9 : b + 1 ≤ 9999) (ht : TilesOn E a b) (Y M D : Int) (hv : Civil.valid Y M D = true)
    (hYa : a ≤ Y) (hYb : Y ≤ b) (hlo : first E ⟨a, 0⟩ ≤ jdn Y M D) (hhi : jdn Y M D < first E ⟨b + 1, 0⟩) :
    ∃ r, ofSolar E Y M D = some r := by
  obtain ⟨hY1, hY9, hM1, hM12, _⟩ := (valid_iff Y M D).1 hv
  obtain ⟨x0, h0, w0, y0⟩ := guess_some E hl Y M ⟨by omega, hY9⟩ ⟨hM1, hM12⟩
  have o0 : LWk.okOn E a b x0 := ⟨w0, by omega, by omega⟩
  obtain ⟨g3, g4⟩ := guess_near ht nf hv (by omega) o0 y0
  -- the first day of the guess is a civil day of the range: it lies between the new-year days of lunar years Y and Y + 1
  obtain ⟨m1, m2⟩ := month_in_year ht o0
  have hlen := (o0.step ht).2
  rw [y0] at m1 m2
  have r1 := (nf.first_in_range hF1 Y hY1 hY9).1
  have r2 := (nf.first_in_range hF1 (Y + 1) (by omega) (by omega)).2
  have hok := (ofJdn_ok_iff (first E x0)).2 ⟨by omega, by omega⟩
  obtain ⟨x1, d1, hb1, hbd⟩ := walkBack_total ht hl ha0 hlo 39 o0 rfl (by omega)
  obtain ⟨o1, e1, n1⟩ := walkBack_spec ht hl hlo o0 rfl hb1
  obtain ⟨x2, d2, hf2⟩ := walkFwd_total ht hl hb9 hhi 39 o1 e1 n1 (by omega)
  obtain ⟨o2, e2, n2, l2⟩ := walkFwd_spec ht hl hhi o1 e1 n1 hf2
  unfold ofSolar
  have e40 : WALK_FUEL = 39 + 1 := rfl
  rw [h0]
  dsimp only
  rw [hok, e40, hb1]
  dsimp only
  rw [hf2]
  have : ¬ (d2 + 1 > len E x2) := by omega
  simp only [Bool.not_true, Bool.false_eq_true, if_false, this]
  exact ⟨_, rfl⟩

end Tyme.Cont

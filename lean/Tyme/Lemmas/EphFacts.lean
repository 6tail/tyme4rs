import Tyme.Lemmas.CivilYear
import Tyme.Lemmas.LunarWalk
import Tyme.Lemmas.TermLine
/-!
What the reasoned proofs about terms, lunar new years and sexagenary years need to know of an ephemeris, as two named
bundles of facts (`TermFacts`, `NewYearFacts`; kernel-decided for `realEph` in Facts/C13Win.lean), and what follows from
them for ANY ephemeris: terms are strictly increasing (so a day's bracket orders the indices), where a day of civil year Y
sits in the term sequence, when a day lies inside the span of a tiling interval of lunar years, and which lunar year the
lunar date of a civil day can have (`lunar_year_cases`, `LunarYearOK`: what the year pillar of the day view needs).
(Namespace `Tyme.Cont`, like everything that rests on `Cont.TermFacts` / `Cont.NewYearFacts`: the statements of C13 use
those names.)
-/
namespace Tyme.Cont
open Tyme Lunar

/-- what the term table must satisfy (kernel-decided for `realEph`: `terms_inc_fact`, `terms_repr_fact`, `terms_win13_fact`) -/
structure TermFacts (E : Eph) : Prop where
  /-- exactly the terms 1..239977 have a representable civil instant -/
  repr : ∀ g : Nat, E.termDay g = 0 ↔ (g = 0 ∨ 239978 ≤ g)
  /-- successive term days are 14..16 days apart -/
  inc : ∀ g : Nat, 1 ≤ g → g + 1 ≤ 239977 → E.termDay g + 14 ≤ E.termDay (g + 1) ∧ E.termDay (g + 1) ≤ E.termDay g + 16
  /-- Lichun of civil year Y falls 24..36 days after January 1 of Y -/
  lichun : ∀ Y : Nat, 1 ≤ Y → Y ≤ 9999 →
    jdn (Y : Int) 1 1 + 24 ≤ E.termDay (24 * (Y - 1) + 3) ∧ E.termDay (24 * (Y - 1) + 3) ≤ jdn (Y : Int) 1 1 + 36
  /-- the winter solstice opening term-year Y falls at least 9 days before January 1 of Y -/
  dongzhi : ∀ Y : Nat, 2 ≤ Y → Y ≤ 10000 → E.termDay (24 * (Y - 1)) + 9 ≤ jdn (Y : Int) 1 1

/-- where the lunar new year lies in the civil year (kernel-decided for `realEph`: years_win_fact) -/
structure NewYearFacts (E : Eph) : Prop where
  win : ∀ y : Nat, 1 ≤ y → y ≤ 9999 → jdn (y : Int) 1 1 ≤ E.mFirst (y : Int) 0 + 5 ∧ E.mFirst (y : Int) 0 ≤ jdn (y : Int) 1 1 + 59
  zero : E.mFirst 0 0 ≤ 1721424

/-! ### the same facts at an integer year, in the form the model writes the index (`(24 * (Y - 1) + 3).toNat`) -/

theorem TermFacts.lichunI {E : Eph} (tf : TermFacts E) (Y : Int) (h1 : 1 ≤ Y) (h2 : Y ≤ 9999) :
    jdn Y 1 1 + 24 ≤ E.termDay (24 * (Y - 1) + 3).toNat ∧ E.termDay (24 * (Y - 1) + 3).toNat ≤ jdn Y 1 1 + 36 := by
  have := tf.lichun Y.toNat (by omega) (by omega)
  have e1 : ((Y.toNat : Nat) : Int) = Y := by omega
  have e2 : 24 * (Y.toNat - 1) + 3 = (24 * (Y - 1) + 3).toNat := by omega
  rw [e1, e2] at this; exact this

theorem TermFacts.dongzhiI {E : Eph} (tf : TermFacts E) (Y : Int) (h1 : 2 ≤ Y) (h2 : Y ≤ 10000) :
    E.termDay (24 * (Y - 1)).toNat + 9 ≤ jdn Y 1 1 := by
  have := tf.dongzhi Y.toNat (by omega) (by omega)
  have e1 : ((Y.toNat : Nat) : Int) = Y := by omega
  have e2 : 24 * (Y.toNat - 1) = (24 * (Y - 1)).toNat := by omega
  rw [e1, e2] at this; exact this

/-- Dahan of Y, at most 16 days before a Lichun that is at least 24 days into the year, does not come before January 9 -/
theorem TermFacts.dahan_ge {E : Eph} (tf : TermFacts E) (Y : Int) (h1 : 1 ≤ Y) (h2 : Y ≤ 9999) :
    jdn Y 1 1 + 8 ≤ E.termDay (24 * (Y - 1) + 2).toNat := by
  have lc := (tf.lichunI Y h1 h2).1
  have inc := (tf.inc (24 * (Y - 1) + 2).toNat (by omega) (by omega)).2
  rw [show (24 * (Y - 1) + 2).toNat + 1 = (24 * (Y - 1) + 3).toNat by omega] at inc
  omega

theorem NewYearFacts.winI {E : Eph} (nf : NewYearFacts E) (y : Int) (h1 : 1 ≤ y) (h2 : y ≤ 9999) :
    jdn y 1 1 ≤ E.mFirst y 0 + 5 ∧ E.mFirst y 0 ≤ jdn y 1 1 + 59 := by
  have := nf.win y.toNat (by omega) (by omega)
  have e : ((y.toNat : Nat) : Int) = y := by omega
  rw [e] at this; exact this

/-- the new-year day of a lunar year 1..9999 is a day number of 0001-01-01 .. 10000-01-01: at most 5 days before January 1
of its year (lunar year 1: not before 0001-01-01 by `hF1`) and at most 59 days after January 1 of 9999 -/
theorem NewYearFacts.first_in_range {E : Eph} (nf : NewYearFacts E) (hF1 : 1721424 ≤ E.mFirst 1 0) (y : Int) (h1 : 1 ≤ y)
    (h9 : y ≤ 9999) : jdnFirst ≤ E.mFirst y 0 ∧ E.mFirst y 0 ≤ jdnLast + 1 := by
  obtain ⟨w1, w2⟩ := nf.winI y h1 h9
  have r := (jan1_range y h1 h9).2
  refine ⟨?_, by omega⟩
  by_cases hy : y = 1
  · subst hy; exact hF1
  · have := jan1_strict 1 y (by omega)
    have := jdn_0001_01_01
    omega

/-- lunar year y (new-year day to new-year day) lies inside the civil years y − 1 .. y + 1, with 350 and 296 days to spare -/
theorem NewYearFacts.year_in_civil {E : Eph} (nf : NewYearFacts E) (y : Int) (h0 : 0 ≤ y) (h9 : y + 1 ≤ 9999) :
    (1 ≤ y → jdn (y - 1) 1 1 + 350 ≤ E.mFirst y 0) ∧ E.mFirst (y + 1) 0 + 296 ≤ jdn (y + 1 + 1) 1 1 := by
  have w1 := (nf.winI (y + 1) (by omega) h9).2
  have s1 := jan1_step (y + 1)
  refine ⟨fun h1 => ?_, by omega⟩
  have w0 := (nf.winI y h1 (by omega)).1
  have s0 := jan1_step (y - 1)
  rw [Int.sub_add_cancel] at s0
  omega

/-- the representable terms, in the form the look-ups test them -/
theorem TermFacts.ne_zero_iff {E : Eph} (tf : TermFacts E) (g : Nat) : E.termDay g ≠ 0 ↔ 1 ≤ g ∧ g ≤ 239977 := by
  rw [Ne, tf.repr g]; omega

theorem termDay_step {E : Eph} (tf : TermFacts E) (g : Nat) (h1 : 1 ≤ g) (h2 : g + 1 ≤ 239977) : E.termDay g < E.termDay (g + 1) := by
  have := (tf.inc g h1 h2).1; omega

theorem term_span {E : Eph} (tf : TermFacts E) (a b : Nat) (ha : 1 ≤ a) (hab : a ≤ b) (hb : b ≤ 239977) :
    E.termDay a + 14 * ((b : Int) - a) ≤ E.termDay b ∧ E.termDay b ≤ E.termDay a + 16 * ((b : Int) - a) := by
  have lo := gap_of_step (fun g h1 h2 => (tf.inc g h1 h2).1) ha hab hb
  have hi := gap_of_step (T := fun g => -E.termDay g) (c := -16) (fun g h1 h2 => by have := (tf.inc g h1 h2).2; omega) ha hab hb
  exact ⟨lo, by omega⟩

/-- the first representable term (Xiaohan of year 1, two terms before a Lichun at most 36 days into the year) begins at most
8 days into year 1 -/
theorem TermFacts.first_term_le {E : Eph} (tf : TermFacts E) : E.termDay 1 ≤ jdn 1 1 1 + 8 := by
  have l : E.termDay 3 ≤ jdn 1 1 1 + 36 := (tf.lichun 1 (by omega) (by omega)).2
  have s := (term_span tf 1 3 (by omega) (by omega) (by omega)).1
  omega

/-- no date of a year ≥ 2 lies before the first representable term -/
theorem first_term_le_date {E : Eph} (tf : TermFacts E) (Y M D : Int) (hv : Civil.valid Y M D = true) (hY : 2 ≤ Y) :
    E.termDay 1 ≤ jdn Y M D := by
  have := (jdn_year_bounds Y M D hv).1
  have := tf.first_term_le
  have := jan1_strict 1 Y (by omega)
  omega

/-- a term from Lichun of y to Lichun of y + 1 falls between 24 days into civil year y and 36 days into y + 1 -/
theorem term_of_sc_year {E : Eph} (tf : TermFacts E) (y : Int) (hy9 : y + 1 ≤ 9999) (g : Nat) (hg1 : 1 ≤ g)
    (hlo : 24 * (y - 1) + 3 ≤ (g : Int)) (hhi : (g : Int) ≤ 24 * y + 3) :
    (1 ≤ y → jdn y 1 1 + 24 ≤ E.termDay g) ∧ E.termDay g ≤ jdn (y + 1) 1 1 + 36 := by
  have lc2 := (tf.lichunI (y + 1) (by omega) hy9).2
  have m2 := (term_span tf g (24 * (y + 1 - 1) + 3).toNat hg1 (by omega) (by omega)).1
  refine ⟨fun hy1 => ?_, by omega⟩
  have lc1 := (tf.lichunI y hy1 (by omega)).1
  have m1 := (term_span tf (24 * (y - 1) + 3).toNat g (by omega) (by omega) (by omega)).1
  omega

/-- Where a day of civil year Y ≤ 9998 sits in the term sequence. The term g whose cell contains it is one of the 26
from the winter solstice before January 1 of Y (index 24(Y−1)) to the Xiaohan of Y+1 (index 24Y+1): the solstice is over
before January 1, and Dahan of Y+1, at most 16 days before a Lichun that is at least 24 days into the year, comes after
December 31. The next term is representable. -/
theorem term_of_civil {E : Eph} (tf : TermFacts E) (Y M D : Int) (hv : Civil.valid Y M D = true) (hY : Y ≤ 9998) (g : Nat)
    (h0 : E.termDay g ≠ 0) (h1 : E.termDay g ≤ jdn Y M D) (h2 : E.termDay (g + 1) = 0 ∨ jdn Y M D < E.termDay (g + 1)) :
    1 ≤ g ∧ 24 * (Y - 1) ≤ (g : Int) ∧ (g : Int) ≤ 24 * (Y - 1) + 25 ∧ jdn Y M D < E.termDay (g + 1) := by
  obtain ⟨hY1, _⟩ := (valid_iff Y M D).1 hv
  obtain ⟨yb1, yb2⟩ := jdn_year_bounds Y M D hv
  generalize jdn Y M D = j at *
  have step := termDay_step tf
  have hg := (tf.ne_zero_iff g).1 h0
  have dh := tf.dahan_ge (Y + 1) (by omega) (by omega)
  have up := index_lt_of_lt_term step (x := (24 * (Y + 1 - 1) + 2).toNat) (by omega) hg.2 h1 (by omega)
  have h2' := h2.resolve_left ((tf.ne_zero_iff _).2 ⟨by omega, by omega⟩)
  have lo : 24 * (Y - 1) ≤ (g : Int) := by
    by_cases hc : (g : Int) < 24 * (Y - 1)
    · have dz := tf.dongzhiI Y (by omega) (by omega)
      have := lt_term_of_index_lt step (x := (24 * (Y - 1)).toNat) (by omega) (by omega) h2' (by omega)
      omega
    · omega
  exact ⟨hg.1, lo, by omega, h2'⟩

/-- A day number lies between the new-year days of lunar years a and b + 1 as soon as it is in or after a civil year
Y ≥ max a 1 — 59 days into it when Y = a — and more than 5 days short of January 1 of b + 1. Every "this date is inside
the interval" argument is an instance: the dates of the civil years a+1 .. b−1, the days of a sexagenary month. -/
theorem span_of_day {E : Eph} (nf : NewYearFacts E) (a b : Int) (ha0 : 0 ≤ a) (hab : a ≤ b) (hb9 : b + 1 ≤ 9999) (j Y : Int)
    (hY1 : 1 ≤ Y) (haY : a ≤ Y) (hlo : jdn Y 1 1 + (if a = Y then 59 else 0) ≤ j) (hhi : j + 5 < jdn (b + 1) 1 1) :
    first E ⟨a, 0⟩ ≤ j ∧ j < first E ⟨b + 1, 0⟩ := by
  have nyb := (nf.winI (b + 1) (by omega) hb9).1
  unfold first; dsimp only
  refine ⟨?_, by omega⟩
  by_cases h0 : a = 0
  · -- lunar year 0 begins before 0001-01-01
    have := nf.zero
    have := jdn_jan1_le 1 Y hY1
    have := jdn_0001_01_01
    unfold jdnFirst at this
    subst h0; split at hlo <;> omega
  · have := (nf.winI a (by omega) (by omega)).2
    split at hlo
    · subst_vars; omega
    · have := jan1_strict a Y (by omega); omega

theorem span_of_year {E : Eph} (nf : NewYearFacts E) (a b : Int) (ha0 : 0 ≤ a) (hb9 : b + 1 ≤ 9999)
    (Y M D : Int) (hv : Civil.valid Y M D = true) (hay : a = 0 ∨ a + 1 ≤ Y) (hyb : Y + 1 ≤ b) :
    a ≤ Y ∧ Y ≤ b ∧ first E ⟨a, 0⟩ ≤ jdn Y M D ∧ jdn Y M D < first E ⟨b + 1, 0⟩ := by
  obtain ⟨yb1, yb2⟩ := jdn_year_bounds Y M D hv
  obtain ⟨hY1, _⟩ := (valid_iff Y M D).1 hv
  have mb := jan1_strict (Y + 1) (b + 1) (by omega)
  exact ⟨by omega, by omega,
    span_of_day nf a b ha0 (by omega) hb9 _ Y hY1 (by omega) (by rw [if_neg (by omega)]; omega) (by omega)⟩

/-- the lunar year of the day is one the year-pillar adjustment handles: the civil year, the one before, or the one
after when the day is not before Lichun (late-December new year) -/
def LunarYearOK (E : Eph) (Y M D : Int) : Prop :=
  ∀ x k, Lunar.ofSolar E Y M D = some (x, k) →
    x.y = Y ∨ x.y = Y - 1 ∨ (x.y = Y + 1 ∧ ¬ jdn Y M D < E.termDay (24 * (Y - 1) + 3).toNat)

/-- inside a tiling interval the lunar year of a civil day of year Y is Y − 1, Y, or — in the last days of December, some
300 days after Lichun — Y + 1 -/
theorem lunar_year_cases (E : Eph) (hl : ∀ y, E.leap y ≤ 12) (tf : TermFacts E) (nf : NewYearFacts E) (a b : Int)
    (hb9 : b + 1 ≤ 9999) (ht : TilesOn E a b) (Y M D : Int) (hv : Civil.valid Y M D = true)
    (hYa : a ≤ Y) (hYb : Y ≤ b) (hlo : first E ⟨a, 0⟩ ≤ jdn Y M D) (hhi : jdn Y M D < first E ⟨b + 1, 0⟩)
    (x : Month) (k : Int) (hr : Lunar.ofSolar E Y M D = some (x, k)) :
    x.y = Y ∨ x.y = Y - 1 ∨ (x.y = Y + 1 ∧ E.termDay (24 * (Y - 1) + 3).toNat + 300 ≤ jdn Y M D) := by
  obtain ⟨w, xa, xb, e, k1, k2⟩ := ofSolar_spec E hl a b ht Y M D hYa hYb hlo hhi (x, k) hr
  dsimp only at w xa xb e k1 k2
  obtain ⟨m1, m2⟩ := month_in_year ht ⟨w, xa, xb⟩
  obtain ⟨yb1, yb2⟩ := jdn_year_bounds Y M D hv
  obtain ⟨hY1, _⟩ := (valid_iff Y M D).1 hv
  have w1 : 0 ≤ x.y := w.1
  generalize jdn Y M D = j at *
  -- the lunar year x.y lies inside the civil years x.y − 1 .. x.y + 1, and the day in civil year Y
  obtain ⟨c0, c1⟩ := nf.year_in_civil x.y w1 (by omega)
  have hlow := jan1_lt (a := Y) (b := x.y + 1 + 1) (by omega)
  have hup : x.y ≤ Y + 1 := by
    by_cases h : 1 ≤ x.y
    · have := jan1_lt (a := x.y - 1) (b := Y + 1) (by have := c0 h; omega)
      omega
    · omega
  by_cases h3 : x.y = Y + 1
  · refine Or.inr (Or.inr ⟨h3, ?_⟩)
    rw [h3] at m1
    have ny := (nf.winI (Y + 1) (by omega) (by omega)).1
    have js := jan1_step Y
    have lc := (tf.lichunI Y hY1 (by omega)).2
    omega
  · omega

theorem lunarYearOK_of_tiles (E : Eph) (hl : ∀ y, E.leap y ≤ 12) (tf : TermFacts E) (nf : NewYearFacts E) (a b : Int)
    (hb9 : b + 1 ≤ 9999) (ht : TilesOn E a b) (Y M D : Int) (hv : Civil.valid Y M D = true)
    (hYa : a ≤ Y) (hYb : Y ≤ b) (hlo : first E ⟨a, 0⟩ ≤ jdn Y M D) (hhi : jdn Y M D < first E ⟨b + 1, 0⟩) :
    LunarYearOK E Y M D := fun x k hr =>
  (lunar_year_cases E hl tf nf a b hb9 ht Y M D hv hYa hYb hlo hhi x k hr).imp id (Or.imp id (And.imp id (by omega)))

end Tyme.Cont

import Tyme.Model.Containers
import Tyme.Spec.Containers
import Tyme.Thm.C01
import Tyme.Lemmas.Lunar
import Tyme.Lemmas.Clock
import Tyme.Thm.C12
import Tyme.Lemmas.Cycle
/-! Helper lemmas for C13 (containers list exactly their parts): the refusing push loop `collect`, integer ranges `rangeI`
and their filters, lists of consecutive day numbers (`Consec`), and one lemma per container of Model/Containers.lean that
says what its list is for any ephemeris (`…_eq` / `…_spec`), the loops with fuel included (`hoursLoop_spec`,
`scmDaysLoop_run`, `scmDaysLoop_total`). -/
namespace Tyme.Cont
open Tyme

theorem collect_eq_some {α : Type} : ∀ (l : List (Option α)) (r : List α), collect l = some r ↔ l = r.map some
  | [], r => by cases r <;> simp [collect]
  | none :: t, r => by cases r <;> simp [collect]
  | some a :: t, [] => by cases ht : collect t <;> simp [collect, ht]
  | some a :: t, b :: r => by
    have : collect (some a :: t) = some (b :: r) ↔ a = b ∧ collect t = some r := by
      cases ht : collect t <;> simp [collect, ht]
    rw [this, collect_eq_some t r]; simp

theorem collect_map_some {α β : Type} (f : α → Option β) (g : α → β) (l : List α) (h : ∀ x ∈ l, f x = some (g x)) :
    collect (l.map f) = some (l.map g) := by
  rw [collect_eq_some, List.map_map]
  exact List.map_congr_left h

theorem collect_some_length {α : Type} : ∀ (l : List (Option α)) (r : List α), collect l = some r → r.length = l.length := by
  intro l r h
  rw [(collect_eq_some l r).1 h, List.length_map]

theorem collect_some_get {α : Type} : ∀ (l : List (Option α)) (r : List α), collect l = some r →
    ∀ i (h1 : i < l.length) (h2 : i < r.length), l[i] = some r[i] := by
  intro l r h i h1 h2
  simp only [(collect_eq_some l r).1 h, List.getElem_map]

/-! ### ranges: `rangeI` is the one range; the specification's `upTo` and `below` are instances -/

theorem mem_rangeI (a b i : Int) : i ∈ rangeI a b ↔ a ≤ i ∧ i < b := by
  unfold rangeI
  simp only [List.mem_map, List.mem_range]
  constructor
  · rintro ⟨k, hk, rfl⟩; omega
  · rintro ⟨h1, h2⟩; exact ⟨(i - a).toNat, by omega, by omega⟩

theorem rangeI_length (a b : Int) : (rangeI a b).length = (b - a).toNat := by simp [rangeI]

theorem rangeI_get (a b : Int) (i : Nat) (h : i < (rangeI a b).length) : (rangeI a b)[i] = a + i := by simp [rangeI]

theorem rangeI_append (a b c : Int) (h1 : a ≤ b) (h2 : b ≤ c) : rangeI a b ++ rangeI b c = rangeI a c := by
  unfold rangeI
  rw [show (c - a).toNat = (b - a).toNat + (c - b).toNat by omega, List.range_add, List.map_append, List.map_map]
  congr 1
  apply List.map_congr_left
  intro k _
  simp only [Function.comp]; omega

theorem rangeI_single (a : Int) : rangeI a (a + 1) = [a] := by
  unfold rangeI
  rw [show (a + 1 - a).toNat = 1 by omega]
  simp

theorem rangeI_shift (a b c : Int) : (rangeI a b).map (fun k => c + k) = rangeI (c + a) (c + b) := by
  unfold rangeI
  rw [List.map_map, show (c + b - (c + a)).toNat = (b - a).toNat by omega]
  apply List.map_congr_left
  intro k _
  simp only [Function.comp]; omega

theorem filter_rangeI (a b lo hi : Int) (h1 : a ≤ lo) (h2 : lo ≤ hi) (h3 : hi ≤ b) (p : Int → Bool)
    (hp : ∀ i, a ≤ i → i < b → (p i = true ↔ lo ≤ i ∧ i < hi)) : (rangeI a b).filter p = rangeI lo hi := by
  rw [← rangeI_append a lo b h1 (by omega), ← rangeI_append lo hi b h2 h3, List.filter_append, List.filter_append,
    List.filter_eq_nil_iff.2, List.filter_eq_self.2, List.filter_eq_nil_iff.2, List.nil_append, List.append_nil]
  all_goals
    intro i hi'
    rw [mem_rangeI] at hi'
    rw [hp i (by omega) (by omega)]
    omega

theorem upTo_eq (n : Nat) : Civil.upTo n = rangeI 1 ((n : Int) + 1) := by
  unfold rangeI Civil.upTo
  rw [show ((n : Int) + 1 - 1).toNat = n by omega]
  apply List.map_congr_left
  intro k _
  omega

theorem below_eq (n : Nat) : Civil.below n = rangeI 0 n := by
  unfold rangeI Civil.below
  rw [show ((n : Int) - 0).toNat = n by omega]
  apply List.map_congr_left
  intro k _
  omega

theorem upTo_toNat (b : Int) : Civil.upTo b.toNat = (rangeI 0 b).map fun i => i + 1 := by
  unfold Civil.upTo rangeI
  rw [show (b - 0).toNat = b.toNat by omega, List.map_map]
  apply List.map_congr_left
  intro k _
  simp only [Function.comp]; omega

theorem mem_upTo (n : Nat) (d : Int) : d ∈ Civil.upTo n ↔ 1 ≤ d ∧ d ≤ n := by
  rw [upTo_eq, mem_rangeI]; omega

/-- A part container and its specification, for every block size. The loop `for k in a..a+c { push(new(off + k)) }`, whose
constructor accepts the indices A..B−1, and the filter of A..B−1 by a predicate that is the window [off+a, off+a+c) give
the same list of c parts. -/
theorem block_parts (new : Int → Option (Int × Int)) (y A B : Int) (hnew : ∀ i, A ≤ i → i < B → new i = some (y, i))
    (p : Int → Bool) (a c off : Int) (hc : 0 ≤ c) (hlo : A ≤ off + a) (hhi : off + a + c ≤ B)
    (hp : ∀ i, A ≤ i → i < B → (p i = true ↔ off + a ≤ i ∧ i < off + a + c)) :
    collect ((rangeI a (a + c)).map fun k => new (off + k)) = some (((rangeI A B).filter p).map fun i => (y, i)) ∧
    (((rangeI A B).filter p).map fun i => (y, i)).length = c.toNat := by
  rw [filter_rangeI A B (off + a) (off + a + c) hlo (by omega) hhi p hp, List.length_map, rangeI_length,
    show off + a + c = off + (a + c) by omega, ← rangeI_shift, List.map_map]
  refine ⟨collect_map_some _ _ _ fun k hk => ?_, by omega⟩
  rw [mem_rangeI] at hk
  exact hnew (off + k) (by omega) (by omega)

theorem datesOfMonth_plain (y m : Int) (hy : 1 ≤ y ∧ y ≤ 9999) (hm : 1 ≤ m ∧ m ≤ 12) (hc : ¬ (y = 1582 ∧ m = 10)) :
    Civil.datesOfMonth y m = (rangeI 1 (Civil.lastDay y m + 1)).map fun d => (y, m, d) := by
  have l := lastDay_le y m
  unfold Civil.datesOfMonth
  rw [upTo_eq, filter_rangeI 1 _ 1 (Civil.lastDay y m + 1) (by omega) (by omega) (by omega)]
  intro d h1 h2
  rw [valid_iff]
  constructor
  · rintro ⟨_, _, _, _, h5, h6, _⟩; omega
  · rintro ⟨h1, h2⟩; exact ⟨hy.1, hy.2, hm.1, hm.2, h1, by omega, fun h => absurd ⟨h.1, h.2.1⟩ hc⟩

theorem monthNew_ok (y m : Int) (hy : 1 ≤ y ∧ y ≤ 9999) (hm : 1 ≤ m ∧ m ≤ 12) : monthNew y m = some (y, m) := by
  unfold monthNew yearOk; simp [hy, hm]

theorem monthDays_eq (y m : Int) (hy : 1 ≤ y ∧ y ≤ 9999) (hm : 1 ≤ m ∧ m ≤ 12) :
    monthDays y m = some (Civil.datesOfMonth y m) := by
  by_cases hc : y = 1582 ∧ m = 10
  · obtain ⟨rfl, rfl⟩ := hc; decide
  · have l := lastDay_le y m
    rw [datesOfMonth_plain y m hy hm hc]
    unfold monthDays
    rw [monthNew_ok y m hy hm, monthLen_eq_lastDay y m hy.1 hy.2 hc]
    apply collect_map_some
    intro d hd
    rw [mem_rangeI] at hd
    have hp : dayOfPos y m d = d := by
      unfold dayOfPos
      rw [if_neg fun h => hc ⟨h.1, h.2.1⟩]
    have hv : Civil.valid y m d = true := by
      rw [valid_iff]; exact ⟨hy.1, hy.2, hm.1, hm.2, hd.1, by omega, fun h => absurd ⟨h.1, h.2.1⟩ hc⟩
    unfold dayNew
    rw [hp, C01_accept_iff, hv]; rfl

def Consec (j : Int) (L : List (Int × Int × Int)) : Prop := ∀ i (h : i < L.length), jdnT L[i] = j + i

theorem consec_cons (a : Int × Int × Int) (t : List (Int × Int × Int)) (j : Int) (ha : jdnT a = j) (ht : Consec (j + 1) t) :
    Consec j (a :: t) := by
  intro i h
  cases i with
  | zero => simp [ha]
  | succ i => simp only [List.getElem_cons_succ]; rw [ht i (by simpa using h)]; omega

theorem consec_append (A B : List (Int × Int × Int)) (j : Int) (hA : Consec j A) (hB : Consec (j + A.length) B) :
    Consec j (A ++ B) := by
  intro i h
  rw [List.getElem_append]
  split
  · exact hA i _
  · rw [hB]; omega

/-- lists that are consecutive runs, each starting where the one before ends, concatenate to one run -/
theorem consec_flatten (f : Int → List (Int × Int × Int)) (s : Int → Int) (a : Int) : ∀ n : Nat,
    (∀ m, a ≤ m → m < a + n → Consec (s m) (f m) ∧ s (m + 1) = s m + (f m).length) →
    Consec (s a) ((rangeI a (a + n)).map f).flatten ∧
      ((((rangeI a (a + n)).map f).flatten.length : Nat) : Int) = s (a + n) - s a := by
  intro n
  induction n with
  | zero => intro _; simp [rangeI, Consec]
  | succ n ih =>
    intro h
    obtain ⟨c, l⟩ := ih (fun m h1 h2 => h m h1 (by omega))
    obtain ⟨c', l'⟩ := h (a + n) (by omega) (by omega)
    rw [show a + ((n + 1 : Nat) : Int) = a + n + 1 by omega, ← rangeI_append a (a + n) (a + n + 1) (by omega) (by omega),
      rangeI_single, List.map_append, List.flatten_append, List.map_singleton, List.flatten_singleton]
    refine ⟨consec_append _ _ _ c (by rw [l, show s a + (s (a + n) - s a) = s (a + n) by omega]; exact c'), ?_⟩
    rw [List.length_append]; omega

theorem datesOfMonth_length (y m : Int) (hy : 1 ≤ y ∧ y ≤ 9999) (hm : 1 ≤ m ∧ m ≤ 12) :
    ((Civil.datesOfMonth y m).length : Int) = monthLen y m := by
  by_cases hc : y = 1582 ∧ m = 10
  · obtain ⟨rfl, rfl⟩ := hc; decide
  · have l := lastDay_le y m
    rw [datesOfMonth_plain y m hy hm hc, List.length_map, rangeI_length, monthLen_eq_lastDay y m hy.1 hy.2 hc]
    omega

theorem datesOfMonth_consec (y m : Int) (hy : 1 ≤ y ∧ y ≤ 9999) (hm : 1 ≤ m ∧ m ≤ 12) :
    Consec (jdn y m 1) (Civil.datesOfMonth y m) := by
  by_cases hc : y = 1582 ∧ m = 10
  · obtain ⟨rfl, rfl⟩ := hc; unfold Consec; decide
  · rw [datesOfMonth_plain y m hy hm hc]
    intro i hi
    have l := lastDay_le y m
    rw [List.length_map, rangeI_length] at hi
    rw [List.getElem_map, rangeI_get]
    show jdn y m (1 + (i : Int)) = _
    rw [jdn_day y m 1 _ (by omega)]
    omega

theorem mem_datesOfMonth (y m : Int) (a : Int × Int × Int) :
    a ∈ Civil.datesOfMonth y m ↔ a.1 = y ∧ a.2.1 = m ∧ Civil.valid y m a.2.2 = true := by
  unfold Civil.datesOfMonth
  simp only [List.mem_map, List.mem_filter, mem_upTo]
  constructor
  · rintro ⟨d, ⟨_, hv⟩, rfl⟩; exact ⟨rfl, rfl, hv⟩
  · rintro ⟨h1, h2, hv⟩
    obtain ⟨a1, a2, a3⟩ := a
    dsimp only at h1 h2 hv
    subst h1; subst h2
    refine ⟨a3, ⟨?_, hv⟩, rfl⟩
    obtain ⟨_, _, _, _, h5, h6, _⟩ := (valid_iff _ _ _).1 hv
    have := lastDay_le a1 a2
    exact ⟨h5, by show a3 ≤ ((31 : Nat) : Int); omega⟩

theorem seasonNew_ok (y i : Int) (hy : 1 ≤ y ∧ y ≤ 9999) (hi : 0 ≤ i ∧ i ≤ 3) : seasonNew y i = some (y, i) := by
  unfold seasonNew yearOk; simp [hy, hi]

theorem halfNew_ok (y i : Int) (hy : 1 ≤ y ∧ y ≤ 9999) (hi : 0 ≤ i ∧ i ≤ 1) : halfNew y i = some (y, i) := by
  unfold halfNew yearOk; simp [hy, hi]

theorem yearMonths_eq (y : Int) (hy : 1 ≤ y ∧ y ≤ 9999) : yearMonths y = some (Civil.monthsOfYear y) := by
  unfold yearMonths Civil.monthsOfYear
  have h0 : yearOk y = true := by unfold yearOk; simp [hy]
  rw [h0, upTo_eq]
  exact collect_map_some _ _ _ fun m hm => monthNew_ok y m hy (by rw [mem_rangeI] at hm; omega)

theorem yearDays_eq (y : Int) (hy : 1 ≤ y ∧ y ≤ 9999) :
    yearDays y = some (((Civil.upTo 12).map fun m => Civil.datesOfMonth y m).flatten) := by
  unfold yearDays
  rw [yearMonths_eq y hy]
  dsimp only
  unfold Civil.monthsOfYear
  rw [List.map_map]
  show Option.map List.flatten (collect ((Civil.upTo 12).map fun m => monthDays y m)) = _
  rw [collect_map_some _ (fun m => Civil.datesOfMonth y m) _
    fun m hm => monthDays_eq y m hy (by rw [mem_upTo] at hm; omega)]
  rfl

/-- the twelve month lists follow one another from January 1 to the next January 1 (`jdn_month_succ`) -/
theorem yearDays_run (y : Int) (hy : 1 ≤ y ∧ y ≤ 9999) :
    Consec (jdn y 1 1) (((Civil.upTo 12).map fun m => Civil.datesOfMonth y m).flatten) ∧
    ((((Civil.upTo 12).map fun m => Civil.datesOfMonth y m).flatten).length : Int) = yearLen y := by
  have key := consec_flatten (fun m => Civil.datesOfMonth y m) (fun m => if m ≤ 12 then jdn y m 1 else jdn (y + 1) 1 1) 1 12
    (fun m h1 h2 => by
      have s := jdn_month_succ y m h1 (by omega)
      rw [if_pos (show m ≤ 12 by omega), datesOfMonth_length y m hy ⟨h1, by omega⟩]
      refine ⟨datesOfMonth_consec y m hy ⟨h1, by omega⟩, ?_⟩
      by_cases h : m = 12
      · rw [if_pos h, if_pos h] at s; rw [if_neg (by omega)]; exact s
      · rw [if_neg h, if_neg h] at s; rw [if_pos (by omega)]; exact s)
  rw [upTo_eq, show ((12 : Nat) : Int) + 1 = 1 + ((12 : Nat) : Int) from rfl]
  rw [if_pos (by decide), if_neg (by decide), jdn_year_succ] at key
  exact ⟨key.1, by rw [key.2]; omega⟩

open Lunar

/-- the stepping loop inside a year lists the following indices (`List.range'` start length unfolds like the loop does) -/
theorem stepMonths_eq (E : Eph) (hl : ∀ y, E.leap y ≤ 12) (y : Int) (hy : 0 ≤ y ∧ y ≤ 9999) :
    ∀ (n i : Nat), i + n < E.cnt y → stepMonths E n ⟨y, i⟩ = some ((List.range' (i + 1) n).map fun k => (⟨y, k⟩ : Month)) := by
  intro n
  induction n with
  | zero => intro i _; rfl
  | succ n ih =>
    intro i h
    have hi : i + 1 < E.cnt y := by omega
    simp only [stepMonths, next_one E hl ⟨y, i⟩ ⟨hy.1, hy.2, by dsimp only; omega⟩ (Or.inl hi), succM, if_pos hi,
      ih (i + 1) (by omega), List.range'_succ, List.map_cons]

theorem lunarYearMonths_eq (E : Eph) (hl : ∀ y, E.leap y ≤ 12) (y : Int) (hy : 0 ≤ y ∧ y ≤ 9999) :
    lunarYearMonths E y = some ((List.range (E.cnt y)).map fun i => (⟨y, i⟩ : Month)) := by
  unfold lunarYearMonths
  have h0 : ¬ (y < -1 ∨ y > 9999) := by omega
  have hc := cnt_cases E y
  have e : E.cnt y = (E.cnt y - 1) + 1 := by omega
  simp only [h0, if_false, fromYm_first E y hy, stepMonths_eq E hl y hy (E.cnt y - 1) 0 (by omega)]
  rw [List.range_eq_range', e, List.range'_succ, List.map_cons, ← e]

theorem lunarMonthDays_eq (E : Eph) (hl : ∀ y, E.leap y ≤ 12) (x : Month) (hx : WF E x) :
    lunarMonthDays E x = some ((Civil.upTo (len E x).toNat).map fun d => (x, d)) := by
  unfold lunarMonthDays
  rw [upTo_toNat, List.map_map]
  refine collect_map_some _ _ _ fun i hi => ?_
  rw [mem_rangeI] at hi
  exact dayNew_mwl E hl x hx (i + 1) (by omega) (by omega)

theorem slotStarts_eq : Civil.slotStarts = [0, 1, 3, 5, 7, 9, 11, 13, 15, 17, 19, 21, 23] := by decide

theorem stepBy_0_24_2 : stepBy 0 24 2 = [0, 2, 4, 6, 8, 10, 12, 14, 16, 18, 20, 22] := by decide

theorem lunarDayHours_eq (E : Eph) (hl : ∀ y, E.leap y ≤ 12) (x : Month) (hx : WF E x) (d : Int) (hd : 1 ≤ d ∧ d ≤ len E x) :
    lunarDayHours E x d = some (Civil.slotStarts.map fun h => (⟨x, d, h, 0, 0⟩ : LHour)) := by
  unfold lunarDayHours
  dsimp only
  rw [stepBy_0_24_2, slotStarts_eq]
  show collect (([0, 1, 3, 5, 7, 9, 11, 13, 15, 17, 19, 21, 23] : List Int).map
    fun h => lunarHourNew E x.y (monthWithLeap E x) d h 0 0) = _
  refine collect_map_some _ _ _ fun h hh => ?_
  unfold lunarHourNew
  have : ¬ (h < 0 ∨ h > 23 ∨ (0 : Int) < 0 ∨ (0 : Int) > 59 ∨ (0 : Int) < 0 ∨ (0 : Int) > 59) := by
    simp only [List.mem_cons, List.not_mem_nil, or_false] at hh; omega
  simp only [this, if_false, dayNew_mwl E hl x hx d hd.1 hd.2]

/-- the loop, with the instant it starts from put in front: n + 1 instants 7200 s apart, each with its view -/
theorem hoursLoop_spec (E : Eph) : ∀ (n : Nat) (t : Time) (v : SC.HourView) (L : List (Time × SC.HourView)),
    hoursLoop E 7200 n t = some L → Clock.valid t = true → viewOfTime E t = some v →
    ((t, v) :: L).length = n + 1 ∧ ∀ i (h : i < ((t, v) :: L).length), Clock.valid ((t, v) :: L)[i].1 = true ∧
      secs ((t, v) :: L)[i].1 = secs t + 7200 * (i : Int) ∧ viewOfTime E ((t, v) :: L)[i].1 = some ((t, v) :: L)[i].2 := by
  intro n
  induction n with
  | zero =>
    intro t v L h hv hw
    cases h
    refine ⟨rfl, fun i h => ?_⟩
    obtain rfl : i = 0 := by simpa using h
    exact ⟨hv, by simp, hw⟩
  | succ n ih =>
    intro t v L h hv hw
    simp only [hoursLoop] at h
    -- a `none` branch contradicts h; what is left is the branch in which every call answered
    repeat' split at h
    all_goals cases h
    rename_i _ t' ht' _ v' hv' _ l hl
    obtain ⟨v1, s1⟩ := (C12_next_iff t t' 7200 hv).1 ht'
    obtain ⟨l1, l2⟩ := ih t' v' l hl v1 hv'
    refine ⟨by simp only [List.length_cons] at l1 ⊢; omega, fun i hi => ?_⟩
    cases i with
    | zero => exact ⟨hv, by simp, hw⟩
    | succ i =>
      obtain ⟨a1, a2, a3⟩ := l2 i (by simpa using hi)
      exact ⟨a1, by rw [List.getElem_cons_succ, a2, s1]; push_cast; omega, a3⟩

/-- the loop `for _ in 0..n { h = h.next(7200); push(h) }` returns as soon as the last instant it reaches is inside
0001..9999 and every instant in between has an instant-level view -/
theorem hoursLoop_total (E : Eph) : ∀ (n : Nat) (t : Time), Clock.valid t = true →
    secs t + 7200 * (n : Int) ≤ secsLast →
    (∀ t' : Time, Clock.valid t' = true → secs t < secs t' → secs t' ≤ secs t + 7200 * (n : Int) →
      ∃ v, viewOfTime E t' = some v) →
    ∃ L, hoursLoop E 7200 n t = some L := by
  intro n
  induction n with
  | zero => intro t _ _ _; exact ⟨[], rfl⟩
  | succ n ih =>
    intro t hv hl hview
    have hb := C12_secs_range t hv
    have e1 : ((n + 1 : Nat) : Int) = (n : Int) + 1 := by omega
    rw [e1] at hl hview
    obtain ⟨t', e, v', s'⟩ := C12_next_secs t 7200 hv (by omega) (by omega)
    obtain ⟨w, hw⟩ := hview t' v' (by omega) (by omega)
    obtain ⟨l, hl'⟩ := ih t' v' (by omega) (fun u hu h1 h2 => hview u hu (by omega) (by omega))
    exact ⟨(t', w) :: l, by simp only [hoursLoop, e, hw, hl']⟩

/-- `SixtyCycleDay::get_hours`: 12 instants, slot k starting 3600 s before the civil midnight plus 7200·k seconds,
each with the view `from_solar_time` gives it; slot 0 is 23:00:00 of the previous civil day p -/
theorem scdHours_spec (E : Eph) (Y M D : Int) (L : List (Time × SC.HourView))
    (h : scdHours E Y M D = some L) :
    ∃ p, Civil.validT p = true ∧ jdnT p = jdn Y M D - 1 ∧ (∃ h0 : 0 < L.length, L[0].1 = ⟨p, 23, 0, 0⟩) ∧
      L.length = 12 ∧ ∀ i (hi : i < L.length), Clock.valid L[i].1 = true ∧
        secs L[i].1 = 86400 * jdn Y M D - 3600 + 7200 * (i : Int) ∧ viewOfTime E L[i].1 = some L[i].2 := by
  unfold scdHours at h
  repeat' split at h
  all_goals cases h
  rename_i _ _ _ _ p hp _ t0 ht0 _ v0 hv0 _ l hl
  obtain ⟨p1, p2⟩ := (dayNext_iff_valid _ _ _).1 hp
  obtain ⟨et0, vt0⟩ := mkTime_valid p 23 0 0 t0 ht0
  have e2 : jdnT (Y, M, D) = jdn Y M D := rfl
  have st0 : secs t0 = 86400 * jdn Y M D - 3600 := by
    rw [et0]; unfold secs; dsimp only
    have : jdnT p = jdn p.1 p.2.1 p.2.2 := rfl
    omega
  obtain ⟨l1, l2⟩ := hoursLoop_spec E 11 t0 v0 l hl vt0 hv0
  exact ⟨p, p1, by omega, ⟨by simp, et0⟩, l1, fun i hi => by rw [← st0]; exact l2 i hi⟩

theorem scdHours_clock (E : Eph) (Y M D : Int) (L : List (Time × SC.HourView)) (hv : Civil.valid Y M D = true)
    (h : scdHours E Y M D = some L) (i : Nat) (hi : i < L.length) (h1 : 1 ≤ i) :
    L[i].1 = ⟨(Y, M, D), 2 * (i : Int) - 1, 0, 0⟩ := by
  obtain ⟨_, _, _, _, l, hs⟩ := scdHours_spec E Y M D L h
  obtain ⟨v, s, _⟩ := hs i hi
  apply C12_secs_inj _ _ v
  · rw [clock_valid_iff]
    refine ⟨hv, ?_, ?_, ?_, ?_, ?_, ?_⟩ <;> dsimp only <;> omega
  · rw [s]; unfold secs; dsimp only; omega

/-- `SixtyCycleDay::get_hours` returns as soon as the day itself has a view, it is not the first day of the range (the
23:00 slot lies in the previous civil day) and every instant from that 23:00 to the end of the day has an instant view -/
theorem scdHours_total (E : Eph) (Y M D : Int) (hv : Civil.valid Y M D = true) (hfirst : jdnFirst < jdn Y M D)
    (hday : ∃ v, SC.ofSolarDay E Y M D = some v)
    (hview : ∀ t : Time, Clock.valid t = true → 86400 * jdn Y M D - 3600 ≤ secs t → secs t < 86400 * jdn Y M D + 86400 →
      ∃ v, viewOfTime E t = some v) :
    ∃ L, scdHours E Y M D = some L := by
  obtain ⟨dv, hdv⟩ := hday
  have jl := jdn_le_last Y M D hv
  have ej : jdnT (Y, M, D) = jdn Y M D := rfl
  obtain ⟨hp, pv, pj⟩ := dayNext_some (Y, M, D) (-1) (by omega) (by omega)
  generalize ofJdn (jdnT (Y, M, D) + -1) = p at hp pv pj
  have ht0 := mkTime_some p 23 0 0 pv (by omega) (by omega) (by omega) (by omega) (by omega) (by omega)
  have vt0 : Clock.valid ⟨p, 23, 0, 0⟩ = true := (mkTime_valid _ _ _ _ _ ht0).2
  have ep : jdnT p = jdn p.1 p.2.1 p.2.2 := rfl
  have st0 : secs ⟨p, 23, 0, 0⟩ = 86400 * jdn Y M D - 3600 := by
    unfold secs; dsimp only; omega
  obtain ⟨v0, hv0⟩ := hview ⟨p, 23, 0, 0⟩ vt0 (by omega) (by omega)
  have e11 : ((11 : Nat) : Int) = 11 := rfl
  obtain ⟨l, hl⟩ := hoursLoop_total E 11 ⟨p, 23, 0, 0⟩ vt0
    (by rw [st0, e11]; unfold secsLast; omega)
    (fun u hu u1 u2 => hview u hu (by omega) (by rw [st0, e11] at u2; omega))
  exact ⟨(⟨p, 23, 0, 0⟩, v0) :: l, by unfold scdHours; simp only [hdv, hp, ht0, hv0, hl]⟩

theorem scmIndexInYear_eq (p : Int) : scmIndexInYear p = (p % 12 - 2) % 12 := by
  unfold scmIndexInYear; rw [SC.indexOf_12]

theorem scmJie_month (y : Int) (k : Nat) (hk : k < 12) (fm : Int) (hfm : SC.firstMonthPillar y = some fm) :
    scmIndexInYear (SC.cycNext fm k) = k ∧ scmJie ⟨y, SC.cycNext fm k⟩ = 24 * (y - 1) + 3 + 2 * (k : Int) := by
  rw [SC.firstMonthPillar_eq] at hfm
  cases hfm
  have : scmIndexInYear (SC.cycNext ((12 * y + 14) % 60) k) = k := by rw [scmIndexInYear_eq, SC.cycNext_eq]; omega
  exact ⟨this, by unfold scmJie; dsimp only; rw [this]⟩

/-- `SixtyCycleYear::get_months`: twelve months of the same year, pillar = first month's pillar + k -/
theorem scyMonths_eq (y : Int) (hy : -1 ≤ y ∧ y ≤ 9999) (fm : Int) (hfm : SC.firstMonthPillar y = some fm) :
    scyMonths y = some ((List.range 12).map fun (k : Nat) => (⟨y, SC.cycNext fm k⟩ : SCMonth)) := by
  have ok : scYearOk y = true := by unfold scYearOk; simp; omega
  unfold scyMonths scyFirstMonth
  rw [ok, hfm]
  rw [SC.firstMonthPillar_eq] at hfm
  cases hfm
  simp only [Bool.not_true, Bool.false_eq_true, if_false]
  -- the eleven steps stay inside the year: the first month has index 0
  rw [collect_map_some _ (fun i => (⟨y, SC.cycNext ((12 * y + 14) % 60) i⟩ : SCMonth))]
  · have h0 : SC.cycNext ((12 * y + 14) % 60) 0 = (12 * y + 14) % 60 := by rw [SC.cycNext_eq]; omega
    have r12 : ∀ g : Int → SCMonth, (List.range 12).map (fun k : Nat => g k) = g 0 :: (rangeI 1 12).map g := fun _ => rfl
    rw [r12 fun i => ⟨y, SC.cycNext ((12 * y + 14) % 60) i⟩, h0]
  · intro i hi
    rw [mem_rangeI] at hi
    unfold scmNext
    dsimp only
    rw [scmIndexInYear_eq]
    have e1 : (y * 12 + ((12 * y + 14) % 60 % 12 - 2) % 12 + i) / 12 = y := by omega
    rw [e1, ok]; rfl

theorem scmDaysLoop_spec (E : Eph) (x : SCMonth) : ∀ (f : Nat) (d : Int × Int × Int) (L : List (Int × Int × Int)),
    scmDaysLoop E x (fun a => dayNext a 1) f d = some L → Civil.validT d = true →
    Consec (jdnT d) L ∧
    (∀ a ∈ L, Civil.validT a = true ∧ ∃ v, SC.ofSolarDay E a.1 a.2.1 a.2.2 = some v ∧ scmSame x v = true) ∧
    (∃ e v, Civil.validT e = true ∧ jdnT e = jdnT d + L.length ∧ SC.ofSolarDay E e.1 e.2.1 e.2.2 = some v ∧ scmSame x v = false) := by
  intro f
  induction f with
  | zero => intro d L h _; rw [scmDaysLoop] at h; cases h
  | succ f ih =>
    intro d L h hv
    rw [scmDaysLoop] at h
    repeat' split at h
    all_goals cases h
    · rename_i _ v hview hsame _ d' hd' _ l hl
      obtain ⟨v1, j1⟩ := (dayNext_iff_valid _ _ _).1 hd'
      obtain ⟨c1, c2, e, ve, e1, e2, e3, e4⟩ := ih d' l hl v1
      refine ⟨consec_cons _ _ _ rfl (by rw [← j1]; exact c1), fun a ha => ?_, ⟨e, ve, e1, by rw [e2, j1]; simp; omega, e3, e4⟩⟩
      rcases List.mem_cons.1 ha with rfl | ha
      · exact ⟨hv, v, hview, hsame⟩
      · exact c2 a ha
    · rename_i _ v hview hsame
      exact ⟨fun i h => absurd h (by simp), fun a ha => absurd ha (by simp), ⟨d, v, hv, by simp, hview, by simpa using hsame⟩⟩

/-- when the view of every day from the start day to a stop day says "this month" exactly before the stop day, whatever
the loop returns is the days from the start day to the day before the stop day -/
theorem scmDaysLoop_run (E : Eph) (x : SCMonth) (f : Nat) (d : Int × Int × Int) (L : List (Int × Int × Int))
    (h : scmDaysLoop E x (fun a => dayNext a 1) f d = some L) (hv : Civil.validT d = true) (stop : Int) (hstop : jdnT d ≤ stop)
    (same : ∀ (a : Int × Int × Int) v, Civil.validT a = true → jdnT d ≤ jdnT a → jdnT a ≤ stop →
      SC.ofSolarDay E a.1 a.2.1 a.2.2 = some v → scmSame x v = decide (jdnT a < stop)) :
    (L.length : Int) = stop - jdnT d ∧ ∀ i (hi : i < L.length), Civil.validT L[i] = true ∧ jdnT L[i] = jdnT d + i := by
  obtain ⟨c1, c2, e, ve, e1, e2, e3, e4⟩ := scmDaysLoop_spec E x f d L h hv
  refine ⟨?_, fun i hi => ⟨(c2 _ (List.getElem_mem hi)).1, c1 i hi⟩⟩
  -- the loop stopped at the first day whose view says "another month": that is the stop day
  rcases Int.lt_trichotomy (L.length : Int) (stop - jdnT d) with hlt | heq | hgt
  · have := same e ve e1 (by omega) (by omega) e3
    rw [e4] at this
    have := of_decide_eq_false this.symm
    omega
  · exact heq
  · have hi : (stop - jdnT d).toNat < L.length := by omega
    obtain ⟨w1, v, w2, w3⟩ := c2 _ (List.getElem_mem hi)
    have hj := c1 _ hi
    have := same _ v w1 (by omega) (by omega) w2
    rw [w3] at this
    have := of_decide_eq_true this.symm
    omega

/-- the fuel is never the reason for a refusal: beyond the number of days left in the range, more fuel changes nothing -/
theorem scmDaysLoop_fuel (E : Eph) (x : SCMonth) : ∀ (f : Nat) (d : Int × Int × Int), Civil.validT d = true →
    jdnLast - jdnT d < f → scmDaysLoop E x (fun a => dayNext a 1) (f + 1) d = scmDaysLoop E x (fun a => dayNext a 1) f d := by
  intro f
  induction f with
  | zero =>
    intro d hv hlt
    have := jdn_le_last d.1 d.2.1 d.2.2 hv
    have e : jdnT d = jdn d.1 d.2.1 d.2.2 := rfl
    omega
  | succ f ih =>
    intro d hv hlt
    rw [scmDaysLoop, scmDaysLoop]
    split
    · rfl
    · split
      · split
        · rfl
        · rename_i d' hd'
          obtain ⟨v1, j1⟩ := (dayNext_iff_valid _ _ _).1 hd'
          rw [ih d' v1 (by omega)]
      · rfl

/-- the loop returns when every day from the start day to a stop day has a view, the view says "this month" exactly before
the stop day, the stop day exists and the fuel exceeds the distance -/
theorem scmDaysLoop_total (E : Eph) (x : SCMonth) (lo stop : Int) (hlo : jdnFirst ≤ lo) (hstop : stop ≤ jdnLast)
    (hview : ∀ d : Int × Int × Int, Civil.validT d = true → lo ≤ jdnT d → jdnT d ≤ stop →
      ∃ v, SC.ofSolarDay E d.1 d.2.1 d.2.2 = some v ∧ scmSame x v = decide (jdnT d < stop)) :
    ∀ (f : Nat) (d : Int × Int × Int), Civil.validT d = true → lo ≤ jdnT d → jdnT d ≤ stop → stop - jdnT d < f →
      ∃ L, scmDaysLoop E x (fun a => dayNext a 1) f d = some L := by
  intro f
  induction f with
  | zero =>
    intro d _ _ _ _
    omega
  | succ f ih =>
    intro d hv hge hle hf
    obtain ⟨v, e1, e2⟩ := hview d hv hge hle
    rw [scmDaysLoop, e1]
    by_cases hlt : jdnT d < stop
    · obtain ⟨n1, n2, n3⟩ := dayNext_some d 1 (by omega) (by omega)
      obtain ⟨L, hL⟩ := ih (ofJdn (jdnT d + 1)) n2 (by omega) (by omega) (by omega)
      simp only [e2, hlt, decide_true, if_true, n1, hL]
      exact ⟨_, rfl⟩
    · simp only [e2, hlt, decide_false, Bool.false_eq_true, if_false]
      exact ⟨_, rfl⟩

end Tyme.Cont

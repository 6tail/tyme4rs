import Tyme.Lemmas.Keys
import Tyme.Spec.Civil
import Tyme.Spec.FestivalLunar
/- C20: the checkable conditions on the three data strings (Bool, decided by the kernel on the dumped data in
Facts/C20*.lean) and the structures that collect them. Definitions only: the table facts depend on nothing else. -/
namespace Tyme.Fest
open FestSpec

def allLt : Nat → (Nat → Bool) → Bool
  | 0, _ => true
  | n + 1, p => p n && allLt n p

/-- `fmtInt` on a natural number, without the detour through `Int` (kernel evaluation on `Int` is slow) -/
def fmtNat (w n : Nat) : Bytes := List.replicate (w - (natStr n).length) 48 ++ natStr n

def okAll : List Pat → Bytes → Bool
  | [], _ => true
  | _ :: _, [] => false
  | p :: ps, b :: l => p.ok b && okAll ps l

/-- `\d{8}[0-1][0-8][\+|-]\d{2}`: the shape every look-up pattern of holiday.rs refines -/
def shape : List Pat := [.dig, .dig, .dig, .dig, .dig, .dig, .dig, .dig] ++ holTail

/-- the record shape matches at exactly the offsets that are multiples of 13 (`ph` = offset mod 13) -/
def alignedWalk : Bytes → Nat → Bool
  | [], _ => true
  | b :: t, ph => ((ph == 0) == okAll shape (b :: t)) && alignedWalk t ((ph + 1) % 13)

abbrev chunksOf (data : Bytes) : List Bytes := chunks (data.length / 13) data

/-- one 13-byte record: a real date, a known name index, and digits that print/parse canonically -/
def holRecOk (nNames : Nat) (c : Bytes) : Bool :=
  let r := parseHol c
  c.length == 13 &&
  Civil.valid r.y r.m r.d &&
  decide (r.idx < nNames) &&
  (fmtNat 4 r.y ++ fmtNat 2 r.m ++ fmtNat 2 r.d == c.take 8) &&
  (parseNat (c.take 4) == some r.y) && (parseNat ((c.drop 4).take 2) == some r.m) &&
  (parseNat ((c.drop 6).take 2) == some r.d)

def strictInc : List Nat → Bool
  | a :: b :: t => decide (a < b) && strictInc (b :: t)
  | _ => true

/-- year blocks of the record list: block `j` = records of year `lo + j` -/
def yearBlocks (cs : List Bytes) (lo n : Nat) : List (List Bytes) :=
  (List.range n).map fun j => cs.filter fun c => (parseHol c).y == lo + j

/-- every element of a block is the first one with its own 8-byte date prefix -/
def selfIndexed (b : List Bytes) : Bool :=
  allLt b.length fun i => firstPrefix ((b.getD i []).take 8) b 0 == some i

/-- first table year minus one, and the number of year blocks (one empty block on each side) -/
def holLo (cs : List Bytes) : Nat := (parseHol (cs.headD [])).y - 1
def holNb (cs : List Bytes) : Nat := (parseHol (cs.getLastD [])).y - holLo cs + 2

def blocksOk (cs : List Bytes) : Bool :=
  let lo := holLo cs
  let bl := yearBlocks cs lo (holNb cs)
  let N := bl.length - 1
  decide (2 ≤ bl.length) && decide (bl.length ≤ 10000) && decide (1 ≤ lo) && decide (lo + bl.length ≤ 10000) &&
  (bl.flatten == cs) &&
  (bl.getD 0 [] == []) && (bl.getD N [] == []) &&
  allLt N (fun j => j == 0 || !(bl.getD j []).isEmpty) &&
  bl.all selfIndexed

/-- is `t` the compensated festival day of `r`: `off` days away (day numbers of the C01 model) and a rest day -/
def isTarget (r t : HolRec) : Bool := (jdn t.y t.m t.d == jdn r.y r.m r.d + r.off) && !t.work

/-- single pass: the target of each record is looked for among the `|off|` records before it (`prev`, nearest first),
itself, or the `off` records after it — dates are strictly increasing, so it cannot be further away -/
def targetWalk : List HolRec → List HolRec → Bool
  | _, [] => true
  | prev, r :: rest =>
    ((r :: (if r.off ≤ 0 then prev.take r.off.natAbs else rest.take r.off.natAbs)).any (isTarget r)) &&
    targetWalk (r :: prev) rest

structure HolWF (nNames : Nat) (data : Bytes) : Prop where
  len : data.length % 13 = 0
  aligned : alignedWalk data 0 = true
  recsOk : (chunksOf data).all (holRecOk nNames) = true
  sorted : strictInc ((holRecs data).map HolRec.key) = true
  blocks : blocksOk (chunksOf data) = true

/-- the fields of a matched civil-festival record, parsed the way the model parses them -/
def solarView (mt : Bytes) : Option SolarRec :=
  match parseInt (mt.drop 8), parseNat ((mt.drop 1).take 2), parseNat ((mt.drop 4).take 2), parseNat ((mt.drop 6).take 2) with
  | some s, some i, some mo, some da =>
    if mt.getD 3 48 - 48 = 0 ∧ 8 ≤ mt.length ∧ 0 ≤ s then some ⟨i, mo, da, s.toNat⟩ else none
  | _, _, _, _ => none

/-- shortest length of month m over all years -/
def baseLen (m : Nat) : Nat := if m == 2 then 28 else if m == 4 || m == 6 || m == 9 || m == 11 then 30 else 31

/-- by-date look-up: for every month 0..12 and day 0..31 the regex finds the first record with that month-day -/
def solarYmdOk (data : Bytes) : Bool :=
  allLt 13 fun m => allLt 32 fun d =>
    ((solarYmdRx (m : Int) (d : Int)).find data).map solarView ==
      ((solarRecs data).find? fun r => r.m == m && r.d == d).map some

/-- by-index look-up: for every index below the size of the name list the regex finds the record with that index -/
def solarIdxOk (size : Nat) (data : Bytes) : Bool :=
  allLt size fun i =>
    ((idxRx (i : Int)).find data).map solarView == ((solarRecs data).find? fun r => r.idx == i).map some

/-- the records: founded after the calendar reform and before 10000, a month-day that exists in every year,
an index below the size of the name list; no two share a month-day or an index -/
def solarRecsOk (size : Nat) (data : Bytes) : Bool :=
  ((solarRecs data).all fun r =>
    decide (1583 ≤ r.start) && decide (r.start ≤ 9999) && decide (1 ≤ r.m) && decide (r.m ≤ 12) &&
    decide (1 ≤ r.d) && decide (r.d ≤ baseLen r.m) && decide (r.idx < size)) &&
  nodupNat ((solarRecs data).map fun r => r.m * 100 + r.d) &&
  nodupNat ((solarRecs data).map fun r => r.idx)

structure SolarWF (size : Nat) (data : Bytes) : Prop where
  pos : 0 < size
  ymd : solarYmdOk data = true
  idx : solarIdxOk size data = true
  recs : solarRecsOk size data = true

def lunarView (mt : Bytes) : Option LunarRec :=
  let dt := mt.getD 3 48 - 48
  match parseNat ((mt.drop 1).take 2) with
  | none => none
  | some idx =>
    if dt = 0 then
      if mt.length < 8 then none else
      match parseNat ((mt.drop 4).take 2), parseNat ((mt.drop 6).take 2) with
      | some mo, some da => some (.day idx mo da)
      | _, _ => none
    else if dt = 1 then (parseNat (mt.drop 4)).map (LunarRec.term idx)
    else if dt = 2 then some (.eve idx) else none

def idxView (mt : Bytes) : Option Nat := parseNat ((mt.drop 1).take 2)

def termView (mt : Bytes) : Option Nat × Option Nat := (parseNat (mt.drop 4), parseNat ((mt.drop 1).take 2))

def recIdx : LunarRec → Nat
  | .day i _ _ => i
  | .term i _ => i
  | .eve i => i

def lunarIdxOk (size : Nat) (data : Bytes) : Bool :=
  decide ((lunarRecs data).length = size) &&
  allLt size fun i => ((idxRx (i : Int)).find data).map lunarView == ((lunarRecs data)[i]?).map some

/-- by-date look-up of fixed-date records: months -12..12 (negative = leap), days 0..31 -/
def lunarYmdOk (data : Bytes) : Bool :=
  allLt 25 fun a => allLt 32 fun d =>
    ((lunarYmdRx ((a : Int) - 12) (d : Int)).find data).map idxView ==
      ((lunarRecs data).findSome? (dayIdxOf ((a : Int) - 12) (d : Int))).map some

def lunarTermsOk (data : Bytes) : Bool :=
  (lunarTermRx.findIter data 0).map termView ==
    ((lunarRecs data).filterMap termOf).map fun p => (some p.2, some p.1)

def lunarEveOk (data : Bytes) : Bool :=
  (lunarEveRx.find data).map idxView == ((lunarRecs data).findSome? eveOf).map some

/-- structure of the record list: index = position; a fixed-date record is the first with its month-day;
term records in increasing index order; the eve record is unique and listed after every term record -/
def lunarStructOk (recs : List LunarRec) : Bool :=
  (allLt recs.length fun i =>
    match recs[i]? with
    | some (.day idx m d) => idx == i && (recs.findSome? (dayIdxOf m d) == some idx)
    | some (.term idx _) => idx == i
    | some (.eve idx) => idx == i && (recs.findSome? eveOf == some idx) &&
        ((recs.filterMap termOf).all fun p => decide (p.1 ≤ idx))
    | none => false) &&
  strictInc ((recs.filterMap termOf).map (·.1))

structure LunarWF (size : Nat) (data : Bytes) : Prop where
  idx : lunarIdxOk size data = true
  ymd : lunarYmdOk data = true
  terms : lunarTermsOk data = true
  eve : lunarEveOk data = true
  struct : lunarStructOk (lunarRecs data) = true

end Tyme.Fest

import Tyme.Model.Term
import Tyme.Lemmas.Steps
/-!
The term line. The solar terms are one sequence `T 1 < T 2 < …` of points — of days (`E.termDay`) or of seconds
(`E.termSec`) — and a date or an instant `p` lies in the cell `g` with `T g ≤ p < T (g + 1)`. Everything the
pillars need from the ephemeris is read off that cell, and every comparison of `p` with a term is a comparison of
`g` with its index (`cell_lt_iff`). The second half of the file is the search for that cell: ONE walk back and forward
(`Term.back`, `Term.fwd`, `Term.locate`, with `locate_spec` and `locate_total`), of which the model's day-level and
instant-level look-ups are readings (`ofDay_eq`, `ofTime_eq`).
-/
namespace Tyme

variable {T : Nat → Int} {a N : Nat}

theorem lt_of_step (step : ∀ g, a ≤ g → g + 1 ≤ N → T g < T (g + 1)) {x y : Nat}
    (hx : a ≤ x) (hxy : x < y) (hy : y ≤ N) : T x < T y := by
  have := gap_of_step (c := 1) (fun g h1 h2 => step g h1 h2) hx (Nat.le_of_lt hxy) hy
  omega

theorem le_of_step (step : ∀ g, a ≤ g → g + 1 ≤ N → T g < T (g + 1)) {x y : Nat}
    (hx : a ≤ x) (hxy : x ≤ y) (hy : y ≤ N) : T x ≤ T y := by
  have := gap_of_step (c := 1) (fun g h1 h2 => step g h1 h2) hx hxy hy
  omega

/-! A position `p` in the cell `g` (`T g ≤ p < T (g + 1)`) against a point `T x`: each half of the cell gives one direction. -/

theorem index_lt_of_lt_term (step : ∀ g, a ≤ g → g + 1 ≤ N → T g < T (g + 1)) {g x : Nat} {p : Int}
    (hx : a ≤ x) (hgN : g ≤ N) (hle : T g ≤ p) (h : p < T x) : g < x := by
  rcases Nat.lt_or_ge g x with h' | h'
  · exact h'
  · have := le_of_step step hx h' hgN; omega

theorem lt_term_of_index_lt (step : ∀ g, a ≤ g → g + 1 ≤ N → T g < T (g + 1)) {g x : Nat} {p : Int}
    (hg' : a ≤ g + 1) (hxN : x ≤ N) (hlt : p < T (g + 1)) (h : g < x) : p < T x := by
  have := le_of_step step hg' h hxN; omega

theorem cell_lt_iff (step : ∀ g, a ≤ g → g + 1 ≤ N → T g < T (g + 1)) {g x : Nat} {p : Int}
    (hg : a ≤ g) (hgN : g ≤ N) (hle : T g ≤ p) (hlt : p < T (g + 1)) (hx : a ≤ x) (hxN : x ≤ N) :
    p < T x ↔ g < x :=
  ⟨index_lt_of_lt_term step hx hgN hle, lt_term_of_index_lt step (by omega) hxN hlt⟩

end Tyme

/-! ### the look-up walk on a line

`SolarDay::get_term_day` and `SolarTime::get_term` are the same two walks — back while the position precedes the term,
then forward while the next term is at or before it — on the line of days and on the line of seconds; `Z g = 0` marks a
term whose instant is not representable. -/
namespace Tyme.Term

def back (Z T : Nat → Int) : Nat → Nat → Int → Option Nat
  | 0, _, _ => none
  | f+1, g, p =>
    if Z g = 0 then none
    else if p < T g then (if g = 0 then none else back Z T f (g - 1) p)
    else some g

def fwd (Z T : Nat → Int) : Nat → Nat → Int → Option Nat
  | 0, _, _ => none
  | f+1, g, p =>
    if Z (g + 1) = 0 then some g
    else if p < T (g + 1) then some g
    else fwd Z T f (g + 1) p

theorem backT_eq (E : Eph) (f g : Nat) (p : Int) : backT E f g p = back E.termDay E.termDay f g p := by
  induction f generalizing g with
  | zero => rfl
  | succ f ih => simp only [backT, back, ih]

theorem fwdT_eq (E : Eph) (f g : Nat) (p : Int) : fwdT E f g p = fwd E.termDay E.termDay f g p := by
  induction f generalizing g with
  | zero => rfl
  | succ f ih => simp only [fwdT, fwd, ih]

theorem backS_eq (E : Eph) (f g : Nat) (p : Int) : backS E f g p = back E.termDay E.termSec f g p := by
  induction f generalizing g with
  | zero => rfl
  | succ f ih => simp only [backS, back, ih]

theorem fwdS_eq (E : Eph) (f g : Nat) (p : Int) : fwdS E f g p = fwd E.termDay E.termSec f g p := by
  induction f generalizing g with
  | zero => rfl
  | succ f ih => simp only [fwdS, fwd, ih]

variable {Z T : Nat → Int}

theorem back_spec {f g : Nat} {p : Int} {r : Nat} (h : back Z T f g p = some r) : Z r ≠ 0 ∧ T r ≤ p := by
  induction f generalizing g with
  | zero => cases h
  | succ f ih =>
    simp only [back] at h
    split at h
    · cases h
    · split at h
      · split at h
        · cases h
        · exact ih h
      · cases h; exact ⟨by assumption, by omega⟩

theorem fwd_spec {f g : Nat} {p : Int} {r : Nat} (hz : Z g ≠ 0) (hle : T g ≤ p) (h : fwd Z T f g p = some r) :
    Z r ≠ 0 ∧ T r ≤ p ∧ (Z (r + 1) = 0 ∨ p < T (r + 1)) := by
  induction f generalizing g with
  | zero => cases h
  | succ f ih =>
    simp only [fwd] at h
    split at h
    · cases h; exact ⟨hz, hle, Or.inl (by assumption)⟩
    · split at h
      · cases h; exact ⟨hz, hle, Or.inr (by assumption)⟩
      · exact ih (by assumption) (by omega) h

/-! The walks return when the fuel `F` covers the tests they make. Started at `g`, `back` tests the term it stands on and
steps down: reaching a term `lo` at or before the position takes `g − lo + 1` tests. `fwd` tests the NEXT term and steps
up: reaching a term `hi` after the position takes `hi − g` tests. Hence `g − lo < F` on one side and `hi − g ≤ F` on the
other. -/

theorem back_total {lo g F : Nat} {p : Int} (hlo : T lo ≤ p) (hz : ∀ x, lo ≤ x → x ≤ g → Z x ≠ 0) (hlg : lo ≤ g)
    (hF : g - lo < F) : ∃ r, back Z T F g p = some r ∧ lo ≤ r ∧ r ≤ g ∧ (r = g ∨ p < T (r + 1)) := by
  induction F generalizing g with
  | zero => omega
  | succ F ih =>
    rw [back, if_neg (hz g hlg (Nat.le_refl _))]
    by_cases hlt : p < T g
    · -- T lo ≤ p < T g: the walk is not yet at lo
      have hgl : lo < g := Nat.lt_of_le_of_ne hlg fun e => by rw [e] at hlo; omega
      rw [if_pos hlt, if_neg (by omega)]
      obtain ⟨r, hr, r1, r2, r3⟩ := ih (fun x h1 h2 => hz x h1 (by omega)) (by omega : lo ≤ g - 1) (by omega)
      refine ⟨r, hr, r1, by omega, Or.inr ?_⟩
      rcases r3 with r3 | r3
      · rw [r3, show g - 1 + 1 = g by omega]; exact hlt
      · exact r3
    · rw [if_neg hlt]
      exact ⟨g, rfl, hlg, Nat.le_refl _, Or.inl rfl⟩

theorem fwd_total {hi g F : Nat} {p : Int} (hhi : p < T hi) (hgh : g < hi) (hF : hi - g ≤ F) :
    ∃ r, fwd Z T F g p = some r := by
  induction F generalizing g with
  | zero => omega
  | succ F ih =>
    rw [fwd]; split
    · exact ⟨_, rfl⟩
    · split
      · exact ⟨_, rfl⟩
      · rename_i hlt
        have : g + 1 ≠ hi := fun e => hlt (e ▸ hhi)
        exact ih (by omega : g + 1 < hi) (by omega)

def locate (Z T : Nat → Int) (f g : Nat) (p : Int) : Option Nat :=
  (back Z T f g p).bind fun g1 => fwd Z T f g1 p

/-- what the search returns is the cell of the position, as far as terms are representable -/
theorem locate_spec {f g r : Nat} {p : Int} (h : locate Z T f g p = some r) :
    Z r ≠ 0 ∧ T r ≤ p ∧ (Z (r + 1) = 0 ∨ p < T (r + 1)) := by
  obtain ⟨g1, h1, h2⟩ := Option.bind_eq_some_iff.1 h
  obtain ⟨a1, a2⟩ := back_spec h1
  exact fwd_spec a1 a2 h2

/-- the search returns when its guess lies in a representable stretch `lo .. hi` with `T lo ≤ p < T hi`, both ends within
the fuel -/
theorem locate_total {lo hi g F : Nat} {p : Int} (hlo : T lo ≤ p) (hhi : p < T hi) (hz : ∀ x, lo ≤ x → x ≤ g → Z x ≠ 0)
    (hlg : lo ≤ g) (hgh : g < hi) (hFlo : g - lo < F) (hFhi : hi - g ≤ F) : ∃ r, locate Z T F g p = some r := by
  obtain ⟨g1, e1, _, _, c⟩ := back_total hlo hz hlg hFlo
  unfold locate
  rw [e1]
  rcases c with c | c
  · exact fwd_total hhi (by omega) (by omega)
  · exact fwd_total c (Nat.lt_succ_self g1) (by omega)

theorem ofDay_eq (E : Eph) (Y M D : Int) : ofDay E Y M D =
    if 24 * (Y - 1) + 2 * M < 0 then none
    else (locate E.termDay E.termDay FUEL (24 * (Y - 1) + 2 * M).toNat (jdn Y M D)).map fun g => (g, jdn Y M D - E.termDay g) := by
  unfold ofDay locate
  simp only [backT_eq, fwdT_eq]
  split
  · rfl
  · cases back E.termDay E.termDay FUEL (24 * (Y - 1) + 2 * M).toNat (jdn Y M D) with
    | none => rfl
    | some g1 =>
      simp only [Option.bind_some]
      cases fwd E.termDay E.termDay FUEL g1 (jdn Y M D) <;> rfl

theorem ofTime_eq (E : Eph) (Y M D h mi s : Int) : ofTime E Y M D h mi s =
    if 24 * (Y - 1) + 2 * M < 0 then none
    else locate E.termDay E.termSec FUEL (24 * (Y - 1) + 2 * M).toNat (86400 * jdn Y M D + 3600 * h + 60 * mi + s) := by
  unfold ofTime locate
  simp only [backS_eq, fwdS_eq]
  split
  · rfl
  · cases back E.termDay E.termSec FUEL (24 * (Y - 1) + 2 * M).toNat (86400 * jdn Y M D + 3600 * h + 60 * mi + s) <;> rfl

end Tyme.Term

import Tyme.Model.Almanac
import Tyme.Spec.Almanac
import Tyme.Lemmas.IndexOf
/-!
Helper lemmas for C18 (generic: no generated data here).

* the walker `allN` (what the kernel evaluates sequentially) and its lifting lemma to `∀ i < n`;
* a well-formed field (spec) is decoded by the code's hex-pair loop to exactly its values, unwrapped;
* `index_of` stays below the list size; kitchen-god numbers for every pillar;
* disjointness of two index lists by bit masks;
* block layout: a text rendered from clean labelled records (`renderBlocks`) is scanned by the code's regex to the field
  of the first record with the label (`findRecord_render`), so a string that passes `layoutOk` cannot yield a misaligned
  match (`findRecord_of_layout`).
-/
namespace Tyme.Almanac
open Tyme.AlmanacSpec

/-- `f k x₀ && f (k+1) x₁ && … ` over the first `n` entries; false if the list has fewer than `n` -/
def allN {α : Type} (f : Nat → α → Bool) : Nat → Nat → List α → Bool
  | 0, _, _ => true
  | _ + 1, _, [] => false
  | n + 1, k, x :: r => f k x && allN f n (k + 1) r

theorem allN_spec {α : Type} (f : Nat → α → Bool) :
    ∀ (n k : Nat) (l : List α), allN f n k l = true → ∀ i, i < n → ∃ x, l[i]? = some x ∧ f (k + i) x = true := by
  intro n
  induction n with
  | zero => intro k l _ i hi; omega
  | succ n ih =>
    intro k l h i hi
    cases l with
    | nil => simp [allN] at h
    | cons x r =>
      simp only [allN, Bool.and_eq_true] at h
      cases i with
      | zero => exact ⟨x, by simp, by simpa using h.1⟩
      | succ j =>
        obtain ⟨y, hy, hf⟩ := ih (k + 1) r h.2 j (by omega)
        refine ⟨y, by simpa using hy, ?_⟩
        have : k + (j + 1) = k + 1 + j := by omega
        rw [this]; exact hf

theorem digit_hexDigit (c : Nat) : hexDigit c = digit? c := rfl

theorem digit_not_sign {c v : Nat} (h : digit? c = some v) : (c == 43) = false ∧ (c == 45) = false := by
  unfold digit? at h
  constructor
  · refine beq_false_of_ne ?_
    rintro rfl
    simp at h
  · refine beq_false_of_ne ?_
    rintro rfl
    simp at h

/-- a pair of hex digits is read by `from_str_radix` as the number `16·hi + lo` (no sign, nothing negative) -/
theorem parse2_of_digits {a b x y : Nat} (ha : digit? a = some x) (hb : digit? b = some y) :
    parse2 a b = some (Int.ofNat (16 * x + y)) := by
  have hs := digit_not_sign ha
  unfold parse2
  simp only [hs.1, hs.2, digit_hexDigit, ha, hb]
  rfl

theorem fieldValues_cons {a b : Nat} {r e : List Nat} (h : fieldValues (a :: b :: r) = some e) :
    ∃ x y t, digit? a = some x ∧ digit? b = some y ∧ fieldValues r = some t ∧ e = (16 * x + y) :: t := by
  unfold fieldValues at h
  split at h
  · rename_i x y t hx hy ht
    exact ⟨x, y, t, hx, hy, ht, (Option.some.inj h).symm⟩
  · cases h

theorem hexPairs_of_fieldValues : ∀ (f : List Nat) (e : List Nat), fieldValues f = some e →
    hexPairs f = some (e.map Int.ofNat)
  | [], e, h => by simp [fieldValues] at h; subst h; rfl
  | [_], e, h => by simp [fieldValues] at h
  | a :: b :: r, e, h => by
    obtain ⟨x, y, t, hx, hy, ht, rfl⟩ := fieldValues_cons h
    unfold hexPairs
    rw [parse2_of_digits hx hy, hexPairs_of_fieldValues r t ht]
    rfl

theorem length_of_fieldValues : ∀ (f : List Nat) (e : List Nat), fieldValues f = some e → f.length = 2 * e.length
  | [], e, h => by simp [fieldValues] at h; subst h; rfl
  | [_], e, h => by simp [fieldValues] at h
  | a :: b :: r, e, h => by
    obtain ⟨x, y, t, hx, hy, ht, rfl⟩ := fieldValues_cons h
    simp only [List.length_cons, length_of_fieldValues r t ht]; omega

theorem indexOf_eq_emod (i : Int) (n : Nat) (hn : 0 < n) : (indexOf i n : Int) = i % (n : Int) := by
  have h := tmod_repair i n (by omega)
  have := Int.emod_nonneg i (show (n : Int) ≠ 0 by omega)
  unfold indexOf; simp only; omega

theorem indexOf_lt (i : Int) {n : Nat} (hn : 0 < n) : indexOf i n < n := by
  have := indexOf_eq_emod i n hn
  have := Int.emod_lt_of_pos i (show (0 : Int) < n by omega)
  omega

/-- a value inside the list is not moved by `from_index` -/
theorem indexOf_ofNat_of_lt {v n : Nat} (h : v < n) : indexOf (Int.ofNat v) n = v := by
  have := indexOf_eq_emod (Int.ofNat v) n (by omega)
  rw [Int.emod_eq_of_lt (by simp) (by simp; omega)] at this
  exact Int.ofNat.inj this

theorem wrapAll_of_lt {n : Nat} (e : List Nat) (h : ∀ v ∈ e, v < n) :
    wrapAll n (some (e.map Int.ofNat)) = some e := by
  unfold wrapAll
  simp only [Option.map_some, List.map_map, Option.some.injEq]
  induction e with
  | nil => rfl
  | cons a t ih =>
    simp only [List.map_cons, List.cons.injEq]
    refine ⟨indexOf_ofNat_of_lt (h a (by simp)), ih (fun v hv => h v (by simp [hv]))⟩

/-- the set of the values as a bit mask -/
def maskOf : List Nat → Nat
  | [] => 0
  | v :: t => Nat.lor (Nat.pow 2 v) (maskOf t)

theorem testBit_maskOf {v : Nat} : ∀ {e : List Nat}, v ∈ e → (maskOf e).testBit v = true
  | [], h => by cases h
  | w :: t, h => by
    show (2 ^ w ||| maskOf t).testBit v = true
    rw [Nat.testBit_or]
    rcases List.mem_cons.mp h with rfl | h
    · simp [Nat.testBit_two_pow_self]
    · simp [testBit_maskOf h]

/-- no common value, decided by one `and` of two masks instead of a search per element -/
def disjointMasks (a b : List Nat) : Bool := Nat.beq (Nat.land (maskOf a) (maskOf b)) 0

theorem disjointMasks_spec {a b : List Nat} (h : disjointMasks a b = true) : ∀ v ∈ a, v ∉ b := by
  have h0 : maskOf a &&& maskOf b = 0 := Nat.eq_of_beq_eq_true h
  intro v ha hb
  have := Nat.testBit_and (maskOf a) (maskOf b) v
  rw [h0, testBit_maskOf ha, testBit_maskOf hb, Nat.zero_testBit] at this
  cases this

/-- consecutive `w`-bit records of `n`, least significant first: `f i r₀ && f (i+1) r₁ && …` over `c` records.
This is what the kernel evaluates, hence `Nat.mod n m` for `n % m` and so on: the kernel computes the named functions
on literals in one step, but has to unfold the instances behind the notation first, at several times the cost. -/
def walkRecs (w : Nat) (f : Nat → Nat → Bool) : Nat → Nat → Nat → Bool
  | 0, _, _ => true
  | c + 1, i, n => f i (Nat.mod n (Nat.pow 2 w)) && walkRecs w f c (Nat.succ i) (Nat.shiftRight n w)

theorem walkRecs_spec (w : Nat) (f : Nat → Nat → Bool) :
    ∀ (c i n : Nat), walkRecs w f c i n = true → ∀ j, j < c → f (i + j) ((n >>> (w * j)) % 2 ^ w) = true := by
  intro c
  induction c with
  | zero => intro i n _ j hj; omega
  | succ c ih =>
    intro i n h j hj
    simp only [walkRecs, Bool.and_eq_true] at h
    cases j with
    | zero => have h1 : f i (n % 2 ^ w) = true := h.1; simpa using h1
    | succ k =>
      have := ih (i + 1) (n >>> w) h.2 k (by omega)
      have e1 : i + 1 + k = i + (k + 1) := by omega
      have e2 : n >>> w >>> (w * k) = n >>> (w * (k + 1)) := by
        rw [← Nat.shiftRight_add]; congr 1; rw [Nat.mul_succ]; omega
      rw [e1, e2] at this
      exact this

/-- the model's answer for each of the 60 pillars as 136-bit records `p, n₁ … n₁₆` (one byte each), pillar 0 lowest.
A constant of the model (not data): its correctness is `kitchenT60_spec`. Lets the kernel compare a year's record
with the model in O(1). -/
def kitchenT60 : Nat := 0x5040404090402010B0B0806050302023B060505050A0503020C0C0907060403033A070606060106040301010A080705040439080707070207050402020B090806050538090808080308060503030C0A09070606370A090909040907060404010B0A08070736010A0A0A050A08070505020C0B09080835020B010B06010908060603010C0A090934030C020C07020A0907070402010B0A0A33040103010803010A08080503020C0B0B32050204020904020B0909060403010C0C31060305030A05030C0A0A0705040201013007040604010604010B0B0806050302022F08050705020705020C0C0907060403032E090608060308060301010A08070504042D0A0709070409070402020B09080605052C01080A08050A080503030C0A090706062B02090109060109060404010B0A0807072A030A020A07020A070505020C0B09080829040B030B08030108060603010C0A090928050C040C0904020907070402010B0A0A27060105010A05030A08080503020C0B0B26070206020106040B0909060403010C0C25080307030207050C0A0A0705040201012409040804030806010B0B080605030202230A050905040907020C0C0907060403032201060A06050A080301010A080705040421020701070601090402020B0908060505200308020807020A0503030C0A090706061F04090309080301060404010B0A0807071E050A040A090402070505020C0B0908081D060B050B0A050308060603010C0A09091C070C060C0106040907070402010B0A0A1B080107010207050A08080503020C0B0B1A090208020308060B0909060403010C0C190A0309030409070C0A0A0705040201011801040A04050A08010B0B0806050302021702050105060109020C0C090706040303160306020607020A0301010A080705040415040703070803010402020B090806050514050804080904020503030C0A0907060613060905090A0503060404010B0A08070712070A060A010604070505020C0B09080811080B070B02070508060603010C0A090910090C080C0308060907070402010B0A0A0F0A0109010409070A08080503020C0B0B0E01020A02050A080B0909060403010C0C0D020301030601090C0A0A0705040201010C0304020407020A010B0B0806050302020B04050305080301020C0C0907060403030A050604060904020301010A080705040409060705070A05030402020B090806050508070806080106040503030C0A090706060708090709020705060404010B0A08070706090A080A030806070505020C0B090808050A0B090B04090708060603010C0A090904010C0A0C050A080907070402010B0A0A03020101010601090A08080503020C0B0B020302020207020A0B0909060403010C0C01040303030803010C0A0A07050402010100

def kitchenT60At (p : Nat) : Nat := Nat.mod (Nat.shiftRight kitchenT60 (Nat.mul 136 p)) (Nat.pow 2 136)

/-- beyond the table every record reads as 0 -/
theorem kitchenT60At_of_ge {p : Nat} (h : 60 ≤ p) : kitchenT60At p = 0 := by
  have hT : kitchenT60 >>> (136 * 60) = 0 := by decide +kernel
  show (kitchenT60 >>> (136 * p)) % 2 ^ 136 = 0
  rw [show 136 * p = 136 * 60 + 136 * (p - 60) by omega, Nat.shiftRight_add, hT, Nat.zero_shiftRight]

/-- the 16 numbers of a 136-bit record -/
def numsOfRec (r : Nat) : List Nat := unpack 16 (r / 256)

/-- for every pillar: the table entry is the model's answer, which is the spec's (ordinal of the first day carrying
the sign), and all 16 numbers are in 1..12 -/
theorem kitchenT60_spec : ∀ p, p < 60 →
    kitchenT60At p % 256 = p ∧ kitchen p = some (numsOfRec (kitchenT60At p)) ∧
    AlmanacSpec.kitchen p = (numsOfRec (kitchenT60At p)).map some ∧
    ∀ x ∈ numsOfRec (kitchenT60At p), 1 ≤ x ∧ x ≤ 12 := by decide +kernel

/-! ### block layout ⇒ the leftmost scan returns the aligned record (all strings) -/

/-- `;` a b field `;` a b field … : the text of a list of labelled records -/
def renderBlocks : List (Nat × Nat × List Nat) → List Nat
  | [] => []
  | (a, b, f) :: rest => 59 :: a :: b :: (f ++ renderBlocks rest)

/-- neither `;` nor `\n` -/
def cleanByte (c : Nat) : Bool := c != 59 && c != 10

/-- label and field bytes are clean, the field is not empty -/
def cleanBlock (blk : Nat × Nat × List Nat) : Bool :=
  cleanByte blk.1 && cleanByte blk.2.1 && !blk.2.2.isEmpty && blk.2.2.all cleanByte

theorem findRecord_skip (h1 h2 : Nat) : ∀ (l R : List Nat), (∀ c ∈ l, (c == 59) = false) →
    findRecord h1 h2 (l ++ R) = findRecord h1 h2 R
  | [], R, _ => rfl
  | c :: l, R, h => by
    rw [List.cons_append, findRecord, h c (by simp), if_neg (by simp)]
    exact findRecord_skip h1 h2 l R fun x hx => h x (by simp [hx])

theorem takeField_append (l R : List Nat) (hl : ∀ c ∈ l, (c == 59) = false) (hR : R = [] ∨ ∃ t, R = 59 :: t) :
    takeField (l ++ R) = l := by
  induction l with
  | nil =>
    rcases hR with rfl | ⟨t, rfl⟩
    · rfl
    · simp [takeField]
  | cons c l ih =>
    rw [List.cons_append, takeField, hl c (by simp), if_neg (by simp), ih fun x hx => hl x (by simp [hx])]

theorem cleanByte_ne59 {c : Nat} (h : cleanByte c = true) : (c == 59) = false := by
  unfold cleanByte at h
  simp only [Bool.and_eq_true, bne_iff_ne, ne_eq] at h
  exact beq_false_of_ne h.1

theorem cleanByte_ne10 {c : Nat} (h : cleanByte c = true) : (c != 10) = true := by
  unfold cleanByte at h
  simp only [Bool.and_eq_true] at h
  exact h.2

theorem renderBlocks_head (blocks : List (Nat × Nat × List Nat)) (tail : List Nat) (ht : tail = [] ∨ tail = [59]) :
    renderBlocks blocks ++ tail = [] ∨ ∃ t, renderBlocks blocks ++ tail = 59 :: t := by
  cases blocks with
  | nil => rcases ht with rfl | rfl <;> simp [renderBlocks]
  | cons b rest => obtain ⟨a, b, f⟩ := b; right; exact ⟨_, rfl⟩

/-- the field of the first block labelled `h1 h2` -/
def blockField (blocks : List (Nat × Nat × List Nat)) (h1 h2 : Nat) : Option (List Nat) :=
  (blocks.find? fun blk => blk.1 == h1 && blk.2.1 == h2).map (·.2.2)

/-- **For ANY text laid out as labelled records** (`;` + two label bytes + non-empty field, all bytes clean, optionally one
trailing `;`) and any label not containing `;`: the leftmost match of `;H₁H₂(.[^;]*)` is the field of the first record
carrying that label — never a misaligned piece of another record. -/
theorem findRecord_render (h1 h2 : Nat) (tail : List Nat) (ht : tail = [] ∨ tail = [59]) :
    ∀ (blocks : List (Nat × Nat × List Nat)), (∀ blk ∈ blocks, cleanBlock blk = true) →
      findRecord h1 h2 (renderBlocks blocks ++ tail) = blockField blocks h1 h2
  | [], _ => by
    rcases ht with rfl | rfl
    · rfl
    · simp [renderBlocks, findRecord, matchHere, blockField]
  | (a, b, f) :: rest, hclean => by
    have hb : cleanBlock (a, b, f) = true := hclean _ (by simp)
    have ih := findRecord_render h1 h2 tail ht rest (fun blk hblk => hclean blk (by simp [hblk]))
    unfold blockField at ih ⊢
    unfold cleanBlock at hb
    simp only [Bool.and_eq_true, Bool.not_eq_true', List.isEmpty_eq_false_iff, List.all_eq_true] at hb
    obtain ⟨⟨⟨ha, hb'⟩, hne⟩, hf⟩ := hb
    cases f with
    | nil => exact absurd rfl hne
    | cons x f' =>
      have hx10 : (x != 10) = true := cleanByte_ne10 (hf x (by simp))
      have hf59 : ∀ c ∈ x :: f', (c == 59) = false := fun c hc => cleanByte_ne59 (hf c hc)
      have hR := renderBlocks_head rest tail ht
      show findRecord h1 h2 (59 :: a :: b :: x :: (f' ++ renderBlocks rest) ++ tail) = _
      have e : (59 :: a :: b :: x :: (f' ++ renderBlocks rest) ++ tail) = 59 :: a :: b :: x :: (f' ++ (renderBlocks rest ++ tail)) := by
        simp [List.append_assoc]
      rw [e, findRecord]
      simp only [beq_self_eq_true, if_true]
      by_cases hm : (a == h1 && b == h2) = true
      · simp only [matchHere, List.find?_cons, hm, hx10, Bool.and_true, if_true, Option.map_some]
        rw [takeField_append f' _ (fun c hc => hf59 c (by simp [hc])) hR]
      · have hm' : (a == h1 && b == h2) = false := by simpa using hm
        simp only [matchHere, List.find?_cons, hm', Bool.false_and, Bool.false_eq_true, if_false]
        -- continue the scan inside this record: a, b and the field contain no `;`
        have hskip := findRecord_skip h1 h2 (a :: b :: x :: f') (renderBlocks rest ++ tail)
          (by
            intro c hc
            simp only [List.mem_cons] at hc
            rcases hc with rfl | rfl | hc
            · exact cleanByte_ne59 ha
            · exact cleanByte_ne59 hb'
            · exact hf59 c (by simpa using hc))
        have e2 : a :: b :: x :: (f' ++ (renderBlocks rest ++ tail)) = (a :: b :: x :: f') ++ (renderBlocks rest ++ tail) := by simp
        rw [e2, hskip, ih]

/-- (untrusted helper) the records a text seems to consist of: pieces between `;`, first two bytes = label -/
def blockOfPiece : List Nat → Option (Nat × Nat × List Nat)
  | a :: b :: f => some (a, b, f)
  | _ => none

def blocksOf (s : List Nat) : List (Nat × Nat × List Nat) := ((splitOn 59 s).drop 1).filterMap blockOfPiece

/-- `s` IS the text of `blocks` (optionally followed by one `;`) and every block is clean — checked, not assumed -/
def layoutOk (s : List Nat) (blocks : List (Nat × Nat × List Nat)) : Bool :=
  (decide (renderBlocks blocks = s) || decide (renderBlocks blocks ++ [59] = s)) && blocks.all cleanBlock

theorem findRecord_of_layout {s : List Nat} {blocks : List (Nat × Nat × List Nat)} (h : layoutOk s blocks = true)
    (h1 h2 : Nat) : findRecord h1 h2 s = blockField blocks h1 h2 := by
  unfold layoutOk at h
  simp only [Bool.and_eq_true, Bool.or_eq_true, decide_eq_true_eq, List.all_eq_true] at h
  obtain ⟨hs, hclean⟩ := h
  rcases hs with hs | hs
  · have := findRecord_render h1 h2 [] (Or.inl rfl) blocks hclean
    rw [List.append_nil, hs] at this; exact this
  · have := findRecord_render h1 h2 [59] (Or.inr rfl) blocks hclean
    rw [hs] at this; exact this

end Tyme.Almanac

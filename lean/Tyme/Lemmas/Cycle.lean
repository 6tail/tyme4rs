import Tyme.Model.SixtyCycle
import Tyme.Lemmas.IndexOf
/-! The sexagenary cycle: `index_of` = modulo, CRT pairing, and every pillar look-up of the model in closed form. -/
namespace Tyme.SC
open Tyme

theorem indexOf_eq_emod (i n : Int) (hn : 0 < n) : indexOf i n = i % n := tmod_repair i n hn

theorem indexOf_10 (i : Int) : indexOf i 10 = i % 10 := indexOf_eq_emod i 10 (by decide)
theorem indexOf_12 (i : Int) : indexOf i 12 = i % 12 := indexOf_eq_emod i 12 (by decide)
theorem indexOf_60 (i : Int) : indexOf i 60 = i % 60 := indexOf_eq_emod i 60 (by decide)

theorem pairIndex_of_nat : ∀ r : Nat, r < 60 → pairIndex ((r : Int) % 10) ((r : Int) % 12) = some (r : Int) := by
  decide

/-- Chinese remainder pairing: the pillar with stem n mod 10 and branch n mod 12 is n mod 60 -/
theorem pairIndex_crt (n : Int) : pairIndex (n % 10) (n % 12) = some (n % 60) := by
  have h0 : 0 ≤ n % 60 := Int.emod_nonneg n (by decide)
  have h1 : n % 60 < 60 := Int.emod_lt_of_pos n (by decide)
  have := pairIndex_of_nat (n % 60).toNat (by omega)
  have e : (((n % 60).toNat : Nat) : Int) = n % 60 := by omega
  rw [e] at this
  have e10 : n % 60 % 10 = n % 10 := by omega
  have e12 : n % 60 % 12 = n % 12 := by omega
  rw [e10, e12] at this
  exact this

/-- a pair is one of the sixty iff stem and branch have the same parity -/
theorem pairIndex_some_iff : ∀ s : Nat, s < 10 → ∀ b : Nat, b < 12 →
    ((pairIndex (s : Int) (b : Int)).isSome = true ↔ s % 2 = b % 2) := by decide

/-! ### the pillar look-ups in closed form

Every pillar the model computes is a counter modulo 60 on its own line: the year pillar counts years, the month
pillar counts months (12 a year: month `idx` of year `y` has number `12 y + idx`), the hour pillar counts
double-hours (12 a day). The stem rules of the code (Five Tigers for months, Five Rats for hours) are these counters
read modulo 10. -/

theorem cycNext_eq (p n : Int) : cycNext p n = (p + n) % 60 := indexOf_60 _

theorem yearPillar_eq (y : Int) : yearPillar y = (y - 4) % 60 := indexOf_60 _

theorem dayPillar_eq (first d : Int) : dayPillar first d = some ((first + d - 12) % 60) := by
  unfold dayPillar
  rw [indexOf_10, indexOf_12]
  exact pairIndex_crt _

theorem lunarMonthPillar_eq (y idx : Int) : lunarMonthPillar y idx = some ((12 * y + 14 + idx) % 60) := by
  unfold lunarMonthPillar
  rw [indexOf_10, indexOf_12, yearPillar_eq, ← pairIndex_crt]
  congr 1 <;> omega

theorem firstMonthPillar_eq (y : Int) : firstMonthPillar y = some ((12 * y + 14) % 60) := by
  unfold firstMonthPillar
  rw [indexOf_10, yearPillar_eq, ← pairIndex_crt]
  congr 1 <;> omega

/-- the double-hour `⌊(h+1)/2⌋ mod 12` of the day whose pillar is in force (the next day's from 23:00) -/
theorem hourPillar_eq (dp h : Int) :
    hourPillar dp h = some ((12 * (dp + if h ≥ 23 then 1 else 0) + (h + 1) / 2 % 12) % 60) := by
  unfold hourPillar
  dsimp only
  rw [indexOf_10, indexOf_12, cycNext_eq, ← pairIndex_crt]
  congr 1 <;> split <;> omega

end Tyme.SC

import Tyme.Model.Cycle
import Tyme.Model.Units
import Tyme.Spec.Stepping
import Tyme.Lemmas.IndexOf
/-!
Helper lemmas for C11 (stepping is a group action). Core Lean only.
-/
namespace Tyme

theorem indexOf_eq_emod (i : Int) (size : Nat) (h : 0 < size) : indexOf i size = i % (size : Int) :=
  tmod_repair i size (by omega)

theorem indexOf_of_range (i : Int) (size : Nat) (h0 : 0 ≤ i) (h1 : i < (size : Int)) : indexOf i size = i := by
  rw [indexOf_eq_emod i size (by omega)]
  exact Int.emod_eq_of_lt h0 h1

theorem loopNext_eq (size : Nat) (h : 0 < size) (i n : Int) : loopNext size i n = (i + n) % (size : Int) := by
  unfold loopNext loopFromIndex loopNextIndex
  rw [indexOf_eq_emod _ size h, indexOf_eq_emod _ size h, Int.emod_emod]

theorem firstIdxFrom_eq (names : List (List Nat)) (nm : List Nat) :
    ∀ k, firstIdxFrom names nm k = (names.findIdx? (fun x => decide (x = nm))).map (· + k) := by
  induction names with
  | nil => intro k; rfl
  | cons x xs ih =>
    intro k
    unfold firstIdxFrom
    rw [List.findIdx?_cons]
    by_cases hx : x = nm
    · simp [hx]
    · simp [hx, ih (k + 1), Option.map_map]; congr 1; funext j; simp; omega

/-- `from_name` is the position of the first entry carrying the name -/
theorem fromName_eq (names : List (List Nat)) (nm : List Nat) :
    fromName names nm = names.findIdx? (fun x => decide (x = nm)) := by
  unfold fromName; rw [firstIdxFrom_eq]; simp

theorem getName_of_lt {names : List (List Nat)} {i : Nat} (hi : i < names.length) : getName names i = names[i] := by
  unfold getName; rw [List.getD_eq_getElem?_getD, List.getElem?_eq_getElem hi]; rfl

theorem tdiv_nonpos_of_neg (a b : Int) (ha : a < 0) (hb : 0 < b) : Int.tdiv a b ≤ 0 := by
  have h1 : 0 ≤ Int.tdiv (-a) b := Int.tdiv_nonneg (by omega) (by omega)
  rw [Int.neg_tdiv] at h1
  omega

theorem pos_unitAt (size : Nat) (p : Int) :
    Step.pos size (Step.unitAt size p).1 (Step.unitAt size p).2 = p := by
  unfold Step.pos Step.unitAt
  simp only
  have := Int.emod_add_ediv_mul p (size : Int)
  omega

theorem unitAt_pos (size : Nat) (y i : Int) (h0 : 0 ≤ i) (h1 : i < (size : Int)) :
    Step.unitAt size (Step.pos size y i) = (y, i) := by
  unfold Step.pos Step.unitAt
  have hne : (size : Int) ≠ 0 := by omega
  have e1 : (y * (size : Int) + i) / (size : Int) = y := by
    rw [Int.add_comm, Int.add_mul_ediv_right _ _ hne, Int.ediv_eq_zero_of_lt h0 h1]; omega
  have e2 : (y * (size : Int) + i) % (size : Int) = i := by
    rw [Int.mul_add_emod_self_right, Int.emod_eq_of_lt h0 h1]
  rw [e1, e2]

theorem unitAt_range (size : Nat) (hs : 0 < size) (p : Int) :
    0 ≤ (Step.unitAt size p).2 ∧ (Step.unitAt size p).2 < (size : Int) := by
  unfold Step.unitAt
  exact ⟨Int.emod_nonneg _ (by omega), Int.emod_lt_of_pos _ (by omega)⟩

/-- the code's index `index_of(idx + n)` is the part of the unit at the global position -/
theorem indexOf_add_eq (size : Nat) (hs : 0 < size) (y idx n : Int) :
    indexOf (idx + n) size = (Step.unitAt size (Step.pos size y idx + n)).2 := by
  unfold Step.unitAt Step.pos
  rw [indexOf_eq_emod _ _ hs, Int.add_assoc, Int.mul_add_emod_self_right]

/-- The code's carry pattern `((y·size + i) / size, index_of i)` with truncating division, handed to a consumer `F` that
cannot tell years ≤ 0 apart: the same as handing it the unit at the global position. For a total ≥ 0 truncation is
floor; for a negative total both years are ≤ 0. -/
theorem carryT_indexOf {β : Type} (size : Nat) (hs : 0 < size) (F : Int → Int → β)
    (hF : ∀ y y' i, 0 ≤ i → y ≤ 0 → y' ≤ 0 → F y i = F y' i) (y idx n : Int) :
    F (carryT size y (idx + n)) (indexOf (idx + n) size) =
      F (Step.unitAt size (Step.pos size y idx + n)).1 (Step.unitAt size (Step.pos size y idx + n)).2 := by
  rw [indexOf_add_eq size hs y]
  have hn : (0 : Int) < size := by omega
  have hi := (unitAt_range size hs (Step.pos size y idx + n)).1
  have e : carryT size y (idx + n) = Int.tdiv (Step.pos size y idx + n) size := by
    unfold carryT Step.pos; rw [Int.add_assoc]
  rw [e]
  by_cases ht : 0 ≤ Step.pos size y idx + n
  · rw [Int.tdiv_eq_ediv_of_nonneg ht]; rfl
  · exact hF _ _ _ hi (tdiv_nonpos_of_neg _ _ (by omega) hn)
      (Int.le_of_lt (Int.ediv_neg_of_neg_of_pos (by omega) hn))

/-- what `Step.lin` answers -/
theorem lin_eq_some_iff (size : Nat) (ok : Int → Int → Bool) (y i n : Int) (r : Int × Int) :
    Step.lin size ok y i n = some r ↔ Step.unitAt size (Step.pos size y i + n) = r ∧ ok r.1 r.2 = true := by
  unfold Step.lin
  simp only [Option.ite_none_right_eq_some, Option.some.injEq]
  exact ⟨fun ⟨hk, e⟩ => ⟨e, e ▸ hk⟩, fun ⟨e, hk⟩ => ⟨e ▸ hk, e⟩⟩

theorem scEarthBranch_eq (sc : Int) : scEarthBranch sc = sc % 12 := by
  unfold scEarthBranch loopFromIndex
  rw [indexOf_eq_emod _ 12 (by omega), Int.tmod_eq_emod]
  split <;> omega

theorem scHeavenStem_eq (sc : Int) : scHeavenStem sc = sc % 10 := by
  unfold scHeavenStem loopFromIndex
  rw [indexOf_eq_emod _ 10 (by omega), Int.tmod_eq_emod]
  split <;> omega

theorem scIndexInYear_eq (sc : Int) : scIndexInYear sc = (sc - 2) % 12 := by
  unfold scIndexInYear
  rw [loopNext_eq 12 (by omega), scEarthBranch_eq]
  omega

end Tyme

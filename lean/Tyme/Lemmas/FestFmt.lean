import Tyme.Lemmas.FestChecks
/- C20: bounded quantifiers as Bool folds; `format!("{:0>w$}")` of a number that fits prints `w` digits that parse back to it. -/
namespace Tyme.Fest

theorem allLt_spec {n : Nat} {p : Nat → Bool} (h : allLt n p = true) : ∀ i, i < n → p i = true := by
  induction n with
  | zero => intro i hi; omega
  | succ n ih =>
    simp only [allLt, Bool.and_eq_true] at h
    intro i hi
    by_cases hin : i = n
    · subst hin; exact h.1
    · exact ih h.2 i (by omega)

theorem strictInc_pairwise : ∀ (l : List Nat), strictInc l = true → List.Pairwise (· < ·) l := by
  intro l
  induction l with
  | nil => intro _; exact List.Pairwise.nil
  | cons a t ih =>
    intro h
    cases t with
    | nil => exact List.pairwise_singleton _ _
    | cons b t =>
      simp only [strictInc, Bool.and_eq_true, decide_eq_true_eq] at h
      have pt := ih h.2
      refine List.Pairwise.cons ?_ pt
      intro x hx
      rcases List.mem_cons.1 hx with rfl | hx'
      · exact h.1
      · exact Nat.lt_trans h.1 ((List.pairwise_cons.1 pt).1 x hx')

theorem fmtInt_ofNat (w n : Nat) : fmtInt w (n : Int) = fmtNat w n := by
  have h : ¬ ((n : Int) < 0) := by omega
  simp [fmtInt, intStr, fmtNat, h]

open FestSpec (num)

theorem parseNat_eq (l : Bytes) :
    parseNat l = if l.isEmpty then none else if l.all isDigit then some (num l) else none := rfl

theorem decDigits_spec : ∀ (f n : Nat), n < f →
    decDigits f n ≠ [] ∧ (decDigits f n).all isDigit = true ∧ num (decDigits f n) = n ∧
      ∀ w, n < 10 ^ (w + 1) → (decDigits f n).length ≤ w + 1 := by
  intro f
  induction f with
  | zero => intro n h; omega
  | succ f ih =>
    intro n h
    unfold decDigits
    split
    · refine ⟨by simp, by simp [isDigit]; omega, by simp [num], fun w _ => by simp⟩
    · obtain ⟨_, hd, hn, hl⟩ := ih (n / 10) (by omega)
      refine ⟨by simp, by simp [hd, isDigit]; omega, ?_, ?_⟩
      · simp only [num, List.foldl_append] at hn ⊢
        rw [hn]; simp; omega
      · intro w hw
        cases w with
        | zero => omega
        | succ w =>
          have := hl w (by rw [Nat.pow_succ] at hw; omega)
          simp; omega

theorem num_zeros (k : Nat) : num (List.replicate k 48) = 0 := by
  induction k with
  | zero => rfl
  | succ k ih => rw [List.replicate_succ', num, List.foldl_append, ← num, ih]; rfl

theorem fmtNat_spec {w n : Nat} (h : n < 10 ^ (w + 1)) :
    (fmtNat (w + 1) n).length = w + 1 ∧ (fmtNat (w + 1) n).all isDigit = true ∧
      parseNat (fmtNat (w + 1) n) = some n := by
  obtain ⟨hne, hd, hn, hl⟩ := decDigits_spec (n + 1) n (by omega)
  have hl := hl w h
  have hall : (fmtNat (w + 1) n).all isDigit = true := by simp [fmtNat, natStr, hd, isDigit]
  have hnil : (fmtNat (w + 1) n).isEmpty = false := by simp [fmtNat, natStr, hne]
  refine ⟨by simp [fmtNat, natStr]; omega, hall, ?_⟩
  rw [parseNat_eq, hnil, hall]
  simp only [Bool.false_eq_true, if_false, if_true, fmtNat, natStr, num, List.foldl_append]
  rw [← num, num_zeros, ← num, hn]

theorem fmtInt_spec {w : Nat} {y : Int} (h0 : 0 ≤ y) (h1 : y < 10 ^ (w + 1)) :
    (fmtInt (w + 1) y).length = w + 1 ∧ (fmtInt (w + 1) y).all isDigit = true ∧
      parseNat (fmtInt (w + 1) y) = some y.toNat := by
  have e : y = (y.toNat : Int) := by omega
  have h : y.toNat < 10 ^ (w + 1) := by
    have : ((y.toNat : Nat) : Int) < ((10 ^ (w + 1) : Nat) : Int) := by rw [← e]; simpa using h1
    omega
  rw [e, fmtInt_ofNat, ← e]
  exact fmtNat_spec h

theorem fmtInt_inj {w : Nat} {a b : Int} (ha0 : 0 ≤ a) (ha : a < 10 ^ (w + 1)) (hb0 : 0 ≤ b) (hb : b < 10 ^ (w + 1))
    (h : fmtInt (w + 1) a = fmtInt (w + 1) b) : a = b := by
  have A := (fmtInt_spec ha0 ha).2.2
  rw [h, (fmtInt_spec hb0 hb).2.2] at A
  have := Option.some.inj A
  omega

theorem parseNat_some_digits {l : Bytes} {n : Nat} (h : parseNat l = some n) : l.all isDigit = true := by
  unfold parseNat at h
  split at h
  · cases h
  · split at h
    · assumption
    · cases h

theorem parseInt_digits {s : Bytes} (h : s.all isDigit = true) : parseInt s = (parseNat s).map fun n => (n : Int) := by
  cases s with
  | nil => simp [parseInt]
  | cons b t =>
    have hb : b ≠ 45 := by
      simp only [List.all_cons, Bool.and_eq_true, isDigit, decide_eq_true_eq] at h; omega
    unfold parseInt
    split
    · rename_i heq; injection heq with e1 e2; exact absurd e1.symm (fun e => hb e.symm)
    · rfl

end Tyme.Fest

import Tyme.Model.Week
import Tyme.Lemmas.IndexOf
import Tyme.Thm.C01
/-! Helper lemmas for C14 (weeks of a month). Core Lean only.

Everything about counting and stepping is proved once, for any month type satisfying `Laws`, on the day number
`J O s m d` of "week d of month m" (any integer d).  The civil part then only has to say what `SolarMonth::next(n)`
is (addition on the linear month index) and where the civil day numbers begin and end. The file also holds the lemmas for
the refusing `for` loops of `get_weeks` / `get_days` (`mapM_*`), for the abstract month sequence `seqOps` and for the
`get_index_in_year` loop. -/
namespace Tyme.Wk

theorem indexOf_eq_emod (i n : Int) (hn : 0 < n) : indexOf i n = i % n := tmod_repair i n hn

variable {M : Type}

theorem off_eq (O : MonthOps M) (m : M) (s : Int) : off O m s = (weekOfJdn (O.first m) - s) % 7 :=
  indexOf_eq_emod _ 7 (by decide)

theorem off_range (O : MonthOps M) (m : M) (s : Int) : 0 ≤ off O m s ∧ off O m s ≤ 6 := by
  rw [off_eq]; omega

theorem weekCount_eq (O : MonthOps M) (m : M) (s : Int) :
    weekCount O m s = ((weekOfJdn (O.first m) - s) % 7 + O.len m + 6) / 7 := by
  unfold weekCount ceil7; rw [off_eq]

/-- what the week code assumes of a month type: on the set `ok` of real months, `next`/`prev` give the adjacent
month, whose first day is `len` days away, and a month has between 8 and 36 days -/
structure Laws (O : MonthOps M) (ok : M → Prop) : Prop where
  next_ok : ∀ m m', ok m → O.next m = some m' → ok m'
  prev_ok : ∀ m m', ok m → O.prev m = some m' → ok m'
  next_first : ∀ m m', ok m → O.next m = some m' → O.first m' = O.first m + O.len m
  prev_first : ∀ m m', ok m → O.prev m = some m' → O.first m = O.first m' + O.len m'
  len_lo : ∀ m, ok m → 8 ≤ O.len m
  len_hi : ∀ m, ok m → O.len m ≤ 36

/-- day number of "week d of month m" for any integer d (also outside 0..count-1) -/
def J (O : MonthOps M) (s : Int) (m : M) (d : Int) : Int := O.first m + (d * 7 - off O m s)

theorem J_add (O : MonthOps M) (s : Int) (m : M) (d n : Int) : J O s m (d + n) = J O s m d + 7 * n := by
  unfold J; omega

theorem J_weekday (O : MonthOps M) (s : Int) (m : M) (d : Int) (hs : 0 ≤ s ∧ s ≤ 6) :
    weekOfJdn (J O s m d) = s := by
  unfold J; rw [off_eq]; unfold weekOfJdn; omega

/-- index d is offered (0 ≤ d < count) exactly when the 7-day block starting at `J d` meets the month -/
theorem meets_iff (O : MonthOps M) (s : Int) (m : M) (d : Int) :
    (0 ≤ d ∧ d < weekCount O m s) ↔
      (J O s m d ≤ O.first m + O.len m - 1 ∧ O.first m ≤ J O s m d + 6) := by
  unfold J; rw [weekCount_eq, off_eq]; omega

theorem cover (O : MonthOps M) (s : Int) (m : M) (j : Int) (h1 : O.first m ≤ j) (h2 : j < O.first m + O.len m) :
    0 ≤ (j - O.first m + off O m s) / 7 ∧ (j - O.first m + off O m s) / 7 < weekCount O m s ∧
    J O s m ((j - O.first m + off O m s) / 7) ≤ j ∧ j ≤ J O s m ((j - O.first m + off O m s) / 7) + 6 := by
  unfold J; rw [weekCount_eq, off_eq]; omega

theorem weekCount_bounds (O : MonthOps M) (m : M) (s : Int) (h1 : 8 ≤ O.len m) (h2 : O.len m ≤ 36) :
    2 ≤ weekCount O m s ∧ weekCount O m s ≤ 6 := by
  rw [weekCount_eq]; omega

/-! ### stepping: both loops keep `J` -/

/-- the border identity (DESIGN App. E): crossing from m to the next month m' keeps the day number of the
target week: with t = off(m)+len(m) = 7q+r, count(m) = q+[r>0], off(m') = r. -/
theorem border (F L s d : Int) (hs : 0 ≤ s ∧ s ≤ 6) :
    F + L + ((d - ((weekOfJdn F - s) % 7 + L + 6) / 7 + (if weekOfJdn (F + L) != s then 1 else 0)) * 7
      - (weekOfJdn (F + L) - s) % 7) = F + (d * 7 - (weekOfJdn F - s) % 7) := by
  unfold weekOfJdn
  by_cases h : (F + L + 7000001) % 7 = s
  · simp only [h, bne_self_eq_false, Bool.false_eq_true, if_false]; omega
  · have : ((F + L + 7000001) % 7 != s) = true := by simp [h]
    simp only [this, if_true]; omega

/-- `border` on `J`: if m' begins where m ends, week d of m is week d − count(m) + [m' does not begin on s] of m'.
The backward loop uses the same identity read from right to left. -/
theorem J_cross (O : MonthOps M) (s : Int) (hs : 0 ≤ s ∧ s ≤ 6) (m m' : M) (hF : O.first m' = O.first m + O.len m)
    (d : Int) : J O s m' (d - weekCount O m s + (if weekOfJdn (O.first m') != s then 1 else 0)) = J O s m d := by
  unfold J
  rw [off_eq, off_eq, weekCount_eq, hF]
  exact border (O.first m) (O.len m) s d hs

theorem fwd_spec (O : MonthOps M) (ok : M → Prop) (L : Laws O ok) (s : Int) (hs : 0 ≤ s ∧ s ≤ 6) :
    ∀ (fuel : Nat) (m : M) (d : Int), ok m → 0 ≤ d → d ≤ fuel →
      match fwd O s fuel m d with
      | some (m', d') => ok m' ∧ J O s m' d' = J O s m d ∧ 0 ≤ d' ∧ d' < weekCount O m' s
      | none => ∃ m', ok m' ∧ O.next m' = none ∧ O.first m' + O.len m' ≤ J O s m d := by
  intro fuel
  induction fuel with
  | zero =>
    intro m d hm h0 hf
    have hb := weekCount_bounds O m s (L.len_lo m hm) (L.len_hi m hm)
    unfold fwd
    rw [if_neg (by omega)]
    exact ⟨hm, rfl, h0, by omega⟩
  | succ fuel ih =>
    intro m d hm h0 hf
    have hb := weekCount_bounds O m s (L.len_lo m hm) (L.len_hi m hm)
    unfold fwd
    by_cases hd : d ≥ weekCount O m s
    · rw [if_pos hd]
      cases hn : O.next m with
      | none =>
        refine ⟨m, hm, hn, ?_⟩
        have := off_range O m s
        unfold J
        rw [weekCount_eq, ← off_eq] at hd
        omega
      | some m' =>
        dsimp only
        have he : (0 : Int) ≤ (if weekOfJdn (O.first m') != s then 1 else 0) ∧
            (if weekOfJdn (O.first m') != s then 1 else 0) ≤ (1 : Int) := by split <;> omega
        have := ih m' (d - weekCount O m s + (if weekOfJdn (O.first m') != s then 1 else 0)) (L.next_ok m m' hm hn)
          (by omega) (by omega)
        rwa [J_cross O s hs m m' (L.next_first m m' hm hn)] at this
    · rw [if_neg hd]
      exact ⟨hm, rfl, h0, by omega⟩

theorem bwd_spec (O : MonthOps M) (ok : M → Prop) (L : Laws O ok) (s : Int) (hs : 0 ≤ s ∧ s ≤ 6) :
    ∀ (fuel : Nat) (m : M) (d : Int), ok m → d < weekCount O m s → -d ≤ fuel →
      match bwd O s fuel m d with
      | some (m', d') => ok m' ∧ J O s m' d' = J O s m d ∧ 0 ≤ d' ∧ d' < weekCount O m' s
      | none => ∃ m', ok m' ∧ O.prev m' = none ∧ J O s m d + 7 ≤ O.first m' := by
  intro fuel
  induction fuel with
  | zero =>
    intro m d hm h0 hf
    unfold bwd
    rw [if_neg (by omega)]
    exact ⟨hm, rfl, by omega, h0⟩
  | succ fuel ih =>
    intro m d hm h0 hf
    unfold bwd
    by_cases hd : d < 0
    · rw [if_pos hd]
      cases hn : O.prev m with
      | none =>
        refine ⟨m, hm, hn, ?_⟩
        have := off_range O m s
        unfold J
        omega
      | some m' =>
        dsimp only
        have hm' := L.prev_ok m m' hm hn
        have hb := weekCount_bounds O m' s (L.len_lo m' hm') (L.len_hi m' hm')
        have he : (0 : Int) ≤ (if weekOfJdn (O.first m) != s then 1 else 0) ∧
            (if weekOfJdn (O.first m) != s then 1 else 0) ≤ (1 : Int) := by split <;> omega
        have := ih m' (d - (if weekOfJdn (O.first m) != s then 1 else 0) + weekCount O m' s) hm' (by omega) (by omega)
        -- week d of m, seen from m', is week d − [m does not begin on s] + count(m'): `J_cross` at that index
        rwa [← J_cross O s hs m' m (L.prev_first m m' hm hn), show ∀ e c : Int, d - e + c - c + e = d by omega] at this
    · rw [if_neg hd]
      exact ⟨hm, rfl, by omega, h0⟩

def WeekOk (O : MonthOps M) (ok : M → Prop) (w : Week M) : Prop :=
  ok w.month ∧ 0 ≤ w.start ∧ w.start ≤ 6 ∧ 0 ≤ w.index ∧ w.index < weekCount O w.month w.start

theorem WeekOk.meets {O : MonthOps M} {ok : M → Prop} {w : Week M} (hw : WeekOk O ok w) :
    firstJ O w ≤ O.first w.month + O.len w.month - 1 ∧ O.first w.month ≤ firstJ O w + 6 :=
  (meets_iff O w.start w.month w.index).1 hw.2.2.2

theorem weekNew_iff (O : MonthOps M) (m : M) (i s : Int) (w : Week M) :
    weekNew O m i s = some w ↔ (w = ⟨m, i, s⟩ ∧ 0 ≤ i ∧ i ≤ 5 ∧ 0 ≤ s ∧ s ≤ 6 ∧ i < weekCount O m s) := by
  unfold weekNew
  repeat' split
  all_goals simp only [reduceCtorEq, false_iff, Option.some.injEq]
  iterate 4 omega
  exact ⟨fun h => ⟨h.symm, by omega⟩, fun h => h.1.symm⟩

/-- the final `from_ym` of `next`: what a loop leaves (a real month and an index below its week count, with day number T)
is accepted, and is the week with first day T; a refusal of the loop is passed on -/
theorem weekNew_lands (O : MonthOps M) (ok : M → Prop) (L : Laws O ok) (s : Int) (hs : 0 ≤ s ∧ s ≤ 6) (T : Int)
    {P Q : Prop} (hQ : Q → P) (r : Option (M × Int))
    (h : match r with
      | some (m, d) => ok m ∧ J O s m d = T ∧ 0 ≤ d ∧ d < weekCount O m s
      | none => Q) :
    match (match r with | none => none | some (m, d) => weekNew O m d s) with
    | some w' => WeekOk O ok w' ∧ w'.start = s ∧ firstJ O w' = T
    | none => P := by
  cases r with
  | none => exact hQ h
  | some p =>
    dsimp only at h ⊢
    have hb := weekCount_bounds O p.1 s (L.len_lo _ h.1) (L.len_hi _ h.1)
    rw [(weekNew_iff O p.1 p.2 s _).2 ⟨rfl, by omega⟩]
    exact ⟨⟨h.1, hs.1, hs.2, h.2.2⟩, rfl, h.2.1⟩

theorem weekNext_spec (O : MonthOps M) (ok : M → Prop) (L : Laws O ok) (w : Week M) (hw : WeekOk O ok w) (n : Int) :
    match weekNext O w n with
    | some w' => WeekOk O ok w' ∧ w'.start = w.start ∧ firstJ O w' = firstJ O w + 7 * n
    | none => (0 < n ∧ ∃ m', ok m' ∧ O.next m' = none ∧ O.first m' + O.len m' ≤ firstJ O w + 7 * n) ∨
              (n < 0 ∧ ∃ m', ok m' ∧ O.prev m' = none ∧ firstJ O w + 7 * n + 7 ≤ O.first m') := by
  obtain ⟨hm, hs0, hs6, hi0, hi1⟩ := hw
  have hs : 0 ≤ w.start ∧ w.start ≤ 6 := ⟨hs0, hs6⟩
  -- the target week as an index of the starting month; each loop (or no loop) keeps its day number
  rw [show firstJ O w + 7 * n = J O w.start w.month (w.index + n) from (J_add O w.start w.month w.index n).symm]
  unfold weekNext
  dsimp only
  by_cases hn : n > 0
  · rw [if_pos hn]
    exact weekNew_lands O ok L w.start hs _ (fun q => Or.inl ⟨hn, q⟩) _
      (fwd_spec O ok L w.start hs (w.index + n).toNat w.month (w.index + n) hm (by omega) (by omega))
  · rw [if_neg hn]
    by_cases hn2 : n < 0
    · rw [if_pos hn2]
      exact weekNew_lands O ok L w.start hs _ (fun q => Or.inr ⟨hn2, q⟩) _
        (bwd_spec O ok L w.start hs (-(w.index + n)).toNat w.month (w.index + n) hm (by omega) (by omega))
    · rw [if_neg hn2]
      exact weekNew_lands O ok L w.start hs _ False.elim (some (w.month, w.index + n)) ⟨hm, rfl, by omega, by omega⟩

/-- the same when the months fill the day numbers `lo .. hi − 1` and `prev`/`next` are refused only at those two ends:
a refusal means the target week lies wholly outside -/
theorem weekNext_ends (O : MonthOps M) (ok : M → Prop) (L : Laws O ok) (lo hi : Int)
    (hN : ∀ m, ok m → O.next m = none → O.first m + O.len m = hi)
    (hP : ∀ m, ok m → O.prev m = none → O.first m = lo) (w : Week M) (hw : WeekOk O ok w) (n : Int) :
    (∀ w', weekNext O w n = some w' →
      WeekOk O ok w' ∧ w'.start = w.start ∧ firstJ O w' = firstJ O w + 7 * n) ∧
    (weekNext O w n = none → (0 < n ∧ hi ≤ firstJ O w + 7 * n) ∨ (n < 0 ∧ firstJ O w + 7 * n + 7 ≤ lo)) := by
  have := weekNext_spec O ok L w hw n
  constructor
  · intro w' h
    rwa [h] at this
  · intro h
    rw [h] at this
    rcases this with ⟨a, m', hm', hn, hle⟩ | ⟨a, m', hm', hn, hle⟩
    · exact Or.inl ⟨a, hN m' hm' hn ▸ hle⟩
    · exact Or.inr ⟨a, hP m' hm' hn ▸ hle⟩

theorem seq_next_iff (first len : Int → Int) (lo hi k k' : Int) :
    (seqOps first len lo hi).next k = some k' ↔ (k < hi ∧ k' = k + 1) := by
  show (if k < hi then some (k + 1) else none) = some k' ↔ _
  split <;> simp [eq_comm] <;> omega

theorem seq_prev_iff (first len : Int → Int) (lo hi k k' : Int) :
    (seqOps first len lo hi).prev k = some k' ↔ (lo < k ∧ k' = k - 1) := by
  show (if lo < k then some (k - 1) else none) = some k' ↔ _
  split <;> simp [eq_comm] <;> omega

theorem seq_ends (first len : Int → Int) (lo hi k : Int) (hk : lo ≤ k ∧ k ≤ hi) :
    ((seqOps first len lo hi).next k = none → k = hi) ∧ ((seqOps first len lo hi).prev k = none → k = lo) := by
  constructor
  · intro h
    have := mt (seq_next_iff first len lo hi k (k + 1)).2 (Option.eq_none_iff_forall_ne_some.1 h _)
    omega
  · intro h
    have := mt (seq_prev_iff first len lo hi k (k - 1)).2 (Option.eq_none_iff_forall_ne_some.1 h _)
    omega

theorem mapM_eq_some_iff {α β : Type} (f : β → Option α) : ∀ (xs : List β) (l : List α),
    xs.mapM f = some l ↔ xs.map f = l.map some := by
  intro xs
  induction xs with
  | nil => intro l; cases l <;> simp [pure]
  | cons x xs ih =>
    intro l
    rw [List.mapM_cons]
    cases l with
    | nil => cases f x <;> cases xs.mapM f <;> simp [bind, pure]
    | cons a l => cases hx : f x <;> cases hr : xs.mapM f <;> simp [bind, pure, ← ih, hr, hx]

/-- a `for i in 0..n` collecting `f i`, every call of which may be refused -/
theorem mapM_range_iff {α : Type} (f : Nat → Option α) (n : Nat) (l : List α) :
    (List.range n).mapM f = some l ↔ (l.length = n ∧ ∀ (k : Nat) (h : k < l.length), f k = some l[k]) := by
  rw [mapM_eq_some_iff]
  constructor
  · intro h
    have hl : l.length = n := by simpa using (congrArg List.length h).symm
    refine ⟨hl, fun k hk => ?_⟩
    have := List.getElem_of_eq h (i := k) (by simpa using hl ▸ hk)
    simpa using this
  · rintro ⟨hl, h⟩
    apply List.ext_getElem (by simp [hl])
    intro k h1 h2
    simp at h1 h2
    simp [h k h2]

/-- … and it returns when every call does -/
theorem mapM_range_total {α : Type} (f : Nat → Option α) (n : Nat) (h : ∀ k, k < n → ∃ r, f k = some r) :
    ∃ l, (List.range n).mapM f = some l := by
  suffices H : ∀ xs : List Nat, (∀ k ∈ xs, ∃ r, f k = some r) → ∃ l, xs.mapM f = some l from
    H _ fun k hk => h k (List.mem_range.1 hk)
  intro xs
  induction xs with
  | nil => exact fun _ => ⟨[], rfl⟩
  | cons x xs ih =>
    intro hx
    obtain ⟨a, ha⟩ := hx x List.mem_cons_self
    obtain ⟨l, hl⟩ := ih fun k hk => hx k (List.mem_cons_of_mem _ hk)
    refine ⟨a :: l, ?_⟩
    rw [List.mapM_cons, ha, hl]
    rfl

def civilOk (ym : Int × Int) : Prop := 1 ≤ ym.1 ∧ ym.1 ≤ 9999 ∧ 1 ≤ ym.2 ∧ ym.2 ≤ 12

theorem civilOk_iff (y m : Int) : civilOk (y, m) ↔ (1 ≤ y ∧ y ≤ 9999 ∧ 1 ≤ m ∧ m ≤ 12) := Iff.rfl

theorem solarMonthOk_iff (y m : Int) : solarMonthOk y m = true ↔ civilOk (y, m) := by
  unfold solarMonthOk civilOk
  simp only [Bool.and_eq_true, decide_eq_true_eq]; omega

/-- `SolarMonth::next(n)` is addition on the linear month index 12·year + month, refused outside 0001-01 .. 9999-12 -/
theorem solarMonthNext_iff (ym ym' : Int × Int) (n : Int) :
    solarMonthNext ym n = some ym' ↔ (civilOk ym' ∧ ym'.1 * 12 + ym'.2 = ym.1 * 12 + ym.2 + n) := by
  obtain ⟨y, m⟩ := ym
  obtain ⟨y', m'⟩ := ym'
  unfold solarMonthNext
  dsimp only
  rw [indexOf_eq_emod _ 12 (by decide)]
  -- all that is needed of the truncated division: 12·q + r = k with |r| < 12 and r ≥ 0 for k ≥ 0
  have h1 := Int.mul_tdiv_add_tmod (y * 12 + (m - 1 + n)) 12
  have h2 := Int.tmod_lt_of_pos (y * 12 + (m - 1 + n)) (show (0 : Int) < 12 by decide)
  have h3 := Int.lt_tmod_of_pos (y * 12 + (m - 1 + n)) (show (0 : Int) < 12 by decide)
  have h4 : 0 ≤ y * 12 + (m - 1 + n) → 0 ≤ (y * 12 + (m - 1 + n)).tmod 12 := Int.tmod_nonneg 12
  unfold civilOk
  split <;> rename_i ok <;> rw [solarMonthOk_iff] at ok <;> unfold civilOk at ok <;> dsimp only at ok ⊢
  · simp only [Option.some.injEq, Prod.mk.injEq]
    omega
  · simp only [reduceCtorEq, false_iff]
    omega

/-- `jdn_month_succ_idx` on two pairs (year, month) -/
theorem first_next (ym ym' : Int × Int) (h : civilOk ym) (h' : civilOk ym')
    (e : ym'.1 * 12 + ym'.2 = ym.1 * 12 + ym.2 + 1) : civilOps.first ym' = civilOps.first ym + civilOps.len ym :=
  jdn_month_succ_idx _ _ _ _ h.2.2.1 h.2.2.2 h'.2.2.1 h'.2.2.2 (by omega)

theorem civilLaws : Laws civilOps civilOk where
  next_ok := fun m m' _ hn => ((solarMonthNext_iff m m' 1).1 hn).1
  prev_ok := fun m m' _ hn => ((solarMonthNext_iff m m' (-1)).1 hn).1
  next_first := fun m m' hm hn =>
    have := (solarMonthNext_iff m m' 1).1 hn
    first_next m m' hm this.1 this.2
  prev_first := fun m m' hm hn =>
    have := (solarMonthNext_iff m m' (-1)).1 hn
    first_next m' m this.1 hm (by have := this.2; omega)
  len_lo := fun m _ => by have := monthLen_bounds m.1 m.2; show 8 ≤ monthLen m.1 m.2; omega
  len_hi := fun m _ => by have := monthLen_bounds m.1 m.2; show monthLen m.1 m.2 ≤ 36; omega

theorem civil_prev_none (ym : Int × Int) (h : civilOk ym) (hn : civilOps.prev ym = none) : ym = (1, 1) := by
  obtain ⟨y, m⟩ := ym
  have e := fun ym' => mt (solarMonthNext_iff (y, m) ym' (-1)).2 (Option.eq_none_iff_forall_ne_some.1 hn ym')
  have e1 := e (y, m - 1)
  have e2 := e (y - 1, 12)
  unfold civilOk at h e1 e2
  dsimp only at h e1 e2
  obtain ⟨rfl, rfl⟩ : y = 1 ∧ m = 1 := by omega
  rfl

theorem civil_next_none (ym : Int × Int) (h : civilOk ym) (hn : civilOps.next ym = none) : ym = (9999, 12) := by
  obtain ⟨y, m⟩ := ym
  have e := fun ym' => mt (solarMonthNext_iff (y, m) ym' 1).2 (Option.eq_none_iff_forall_ne_some.1 hn ym')
  have e1 := e (y, m + 1)
  have e2 := e (y + 1, 1)
  unfold civilOk at h e1 e2
  dsimp only at h e1 e2
  obtain ⟨rfl, rfl⟩ : y = 9999 ∧ m = 12 := by omega
  rfl

theorem civil_lo (ym : Int × Int) (h : civilOk ym) : jdnFirst ≤ civilOps.first ym :=
  jdn_ge_first _ _ 1 (valid_first _ _ h.1 h.2.1 h.2.2.1 h.2.2.2)

theorem civil_hi (ym : Int × Int) (h : civilOk ym) : civilOps.first ym + civilOps.len ym ≤ jdnLast + 1 := by
  have a := (jdn_month_in_year ym.1 ym.2 h.2.2.1 h.2.2.2).2
  have b := jdn_jan1_le (ym.1 + 1) 10000 (by have := h.2.1; omega)
  rw [show jdn 10000 1 1 = jdnLast + 1 by decide] at b
  exact Int.le_trans a b

/-- a well-formed civil week starts at most 6 days before 0001-01-01 and not after 9999-12-31 -/
theorem solarWeek_bounds (w : SolarWeek) (hw : WeekOk civilOps civilOk w) :
    jdnFirst - 6 ≤ firstJ civilOps w ∧ firstJ civilOps w ≤ jdnLast := by
  have := hw.meets
  have := civil_lo _ hw.1
  have := civil_hi _ hw.1
  omega

theorem solarWeekFirstDay_iff (w : SolarWeek) (hw : WeekOk civilOps civilOk w) (d : Int × Int × Int) :
    solarWeekFirstDay w = some d ↔ (jdnFirst ≤ firstJ civilOps w ∧ d = ofJdn (firstJ civilOps w)) := by
  have hb := solarWeek_bounds w hw
  unfold solarWeekFirstDay
  rw [dayNext_iff]
  exact ⟨fun h => ⟨h.1, h.2.2⟩, fun h => ⟨h.1, hb.2, h.2⟩⟩

theorem solarWeekNext_spec (w : SolarWeek) (hw : WeekOk civilOps civilOk w) (n : Int) :
    (∀ w', weekNext civilOps w n = some w' →
      WeekOk civilOps civilOk w' ∧ w'.start = w.start ∧ firstJ civilOps w' = firstJ civilOps w + 7 * n) ∧
    (weekNext civilOps w n = none →
      (0 < n ∧ jdnLast + 1 ≤ firstJ civilOps w + 7 * n) ∨ (n < 0 ∧ firstJ civilOps w + 7 * n + 7 ≤ jdnFirst)) :=
  weekNext_ends civilOps civilOk civilLaws _ _ (fun m hm hn => by rw [civil_next_none m hm hn]; decide)
    (fun m hm hn => by rw [civil_prev_none m hm hn]; decide) w hw n

theorem ofJdn_ne_iff (a b : Int) (ha : jdnFirst ≤ a ∧ a ≤ jdnLast) (hb : jdnFirst ≤ b ∧ b ≤ jdnLast) :
    (ofJdn a != ofJdn b) = true ↔ a ≠ b := by
  simp only [bne_iff_ne, ne_eq]
  constructor
  · intro h e; exact h (by rw [e])
  · intro h e
    have := (C01_jdn_ofJdn a ha.1 ha.2).2
    rw [e, (C01_jdn_ofJdn b hb.1 hb.2).2] at this
    exact h this.symm

/-- the `get_index_in_year` loop: from a week v that lies k weeks before the target it returns i + k -/
theorem idxLoop_spec (T : Int) (hT : T ≤ jdnLast) :
    ∀ (fuel k : Nat) (v : SolarWeek) (i : Int), WeekOk civilOps civilOk v → jdnFirst ≤ firstJ civilOps v →
      firstJ civilOps v + 7 * k = T → k ≤ fuel → idxLoop (ofJdn T) fuel v i = some (i + k) := by
  intro fuel
  induction fuel with
  | zero =>
    intro k v i hv h1 h2 h3
    obtain rfl : k = 0 := by omega
    unfold idxLoop idxLoopG
    rw [(solarWeekFirstDay_iff v hv _).2 ⟨h1, rfl⟩, show firstJ civilOps v = T by omega]
    simp
  | succ fuel ih =>
    intro k v i hv h1 h2 h3
    unfold idxLoop idxLoopG
    rw [(solarWeekFirstDay_iff v hv _).2 ⟨h1, rfl⟩]
    dsimp only
    cases k with
    | zero => rw [show firstJ civilOps v = T by omega]; simp
    | succ k =>
      rw [if_pos ((ofJdn_ne_iff _ T ⟨h1, by omega⟩ ⟨by omega, hT⟩).2 (by omega))]
      have hs := solarWeekNext_spec v hv 1
      unfold solarWeekNext
      cases e : weekNext civilOps v 1 with
      | none => have := hs.2 e; omega
      | some v' =>
        have hs := hs.1 v' e
        refine (ih k v' (i + 1) hs.1 (by omega) (by omega) (by omega)).trans ?_
        congr 1; omega

end Tyme.Wk

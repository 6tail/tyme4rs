import Tyme.Lemmas.FestFmt
/- Generic lemmas for C20 (no table data here): the regex fragment, and look-ups by a key that one record has. -/
namespace Tyme.Fest

theorem matchFix_eq (ps : List Pat) (l : Bytes) :
    matchFix ps l = if okAll ps l then some (l.take ps.length, l.drop ps.length) else none := by
  induction ps generalizing l with
  | nil => simp [matchFix, okAll]
  | cons p ps ih =>
    cases l with
    | nil => simp [matchFix, okAll]
    | cons b l =>
      simp only [matchFix, okAll, ih l]
      by_cases h1 : p.ok b = true <;> by_cases h2 : okAll ps l = true <;> simp [h1, h2]

theorem okAll_length {ps : List Pat} {l : Bytes} (h : okAll ps l = true) : ps.length ≤ l.length := by
  induction ps generalizing l with
  | nil => simp
  | cons p ps ih =>
    cases l with
    | nil => simp [okAll] at h
    | cons b l =>
      simp only [okAll, Bool.and_eq_true] at h
      have := ih h.2
      simp; omega

theorem okAll_append (ps qs : List Pat) (l : Bytes) :
    okAll (ps ++ qs) l = (okAll ps l && okAll qs (l.drop ps.length)) := by
  induction ps generalizing l with
  | nil => simp [okAll]
  | cons p ps ih =>
    cases l with
    | nil =>
      simp [okAll]
    | cons b l =>
      simp [okAll, ih l, Bool.and_assoc]

theorem okAll_lits (s l : Bytes) : okAll (lits s) l = (s.isPrefixOf l) := by
  induction s generalizing l with
  | nil => simp [lits, okAll]
  | cons c s ih =>
    cases l with
    | nil => simp [lits, okAll]
    | cons b l =>
      have := ih l
      simp only [lits] at this
      simp only [lits, List.map_cons, okAll, Pat.ok, this, List.isPrefixOf]
      by_cases h : b = c
      · subst h; simp
      · have h' : ¬ c = b := fun e => h e.symm
        have e1 : (b == c) = false := by simpa using h
        have e2 : (c == b) = false := by simpa using h'
        rw [e1, e2]

theorem okAll_dig_of_prefix : ∀ {s l : Bytes}, s.all isDigit = true → s.isPrefixOf l = true →
    okAll (List.replicate s.length Pat.dig) l = true
  | [], _, _, _ => by simp [okAll]
  | _ :: _, [], _, h => by simp at h
  | c :: s, b :: l, hs, h => by
    simp only [List.isPrefixOf, Bool.and_eq_true, beq_iff_eq] at h
    simp only [List.all_cons, Bool.and_eq_true] at hs
    simp only [List.length_cons, List.replicate_succ, okAll, Pat.ok, Bool.and_eq_true]
    exact ⟨h.1 ▸ hs.1, okAll_dig_of_prefix hs.2 h.2⟩

theorem matchHere_noplus (r : Rx) (hp : r.plus = false) (l : Bytes) :
    r.matchHere l = if okAll r.fix l then some (l.take r.fix.length) else none := by
  unfold Rx.matchHere
  rw [matchFix_eq]
  by_cases h : okAll r.fix l = true <;> simp [h, hp]

theorem find_inv {r : Rx} : ∀ {l : Bytes} {m : Bytes}, r.find l = some m → ∃ o, r.matchHere (l.drop o) = some m := by
  intro l
  induction l with
  | nil => intro m h; exact ⟨0, by simpa [Rx.find] using h⟩
  | cons b t ih =>
    intro m h
    unfold Rx.find at h
    cases hm : r.matchHere (b :: t) with
    | some m' =>
      rw [hm] at h
      exact ⟨0, by simpa [hm] using h⟩
    | none =>
      rw [hm] at h
      obtain ⟨o, ho⟩ := ih h
      exact ⟨o + 1, by simpa using ho⟩

theorem find_isSome_of_match {r : Rx} {l : Bytes} {o : Nat} {m : Bytes} (h : r.matchHere (l.drop o) = some m) :
    ∃ m', r.find l = some m' := by
  induction l generalizing o with
  | nil => exact ⟨m, by simpa [Rx.find] using h⟩
  | cons b t ih =>
    unfold Rx.find
    cases hm : r.matchHere (b :: t) with
    | some m' => exact ⟨m', rfl⟩
    | none =>
      cases o with
      | zero => rw [List.drop_zero, hm] at h; cases h
      | succ o => exact ih (by simpa using h)

/-- how the table facts of the form `(regex find).map view == (record look-up).map some` are used: both look-ups
fail, or both succeed and the view of the matched text is the record -/
theorem map_view_cases {α : Type} {view : Bytes → Option α} {a : Option Bytes} {b : Option α}
    (h : a.map view = b.map some) :
    (a = none ∧ b = none) ∨ ∃ mt r, a = some mt ∧ b = some r ∧ view mt = some r := by
  cases a <;> cases b <;> simp at h
  · exact .inl ⟨rfl, rfl⟩
  · exact .inr ⟨_, _, rfl, rfl, h⟩

theorem find?_unique {α : Type} {l : List α} {p : α → Bool} {r : α} (hr : r ∈ l) (hp : p r = true)
    (hu : ∀ a ∈ l, p a = true → a = r) : l.find? p = some r := by
  cases h : l.find? p with
  | none => exact absurd hp (by simpa using List.find?_eq_none.1 h r hr)
  | some a => rw [hu a (List.mem_of_find?_eq_some h) (List.find?_some h)]

theorem find?_unique_and {α : Type} {l : List α} {p q : α → Bool} {r : α} (hr : r ∈ l) (hp : p r = true)
    (hu : ∀ a ∈ l, p a = true → a = r) : (l.find? fun a => p a && q a) = if q r then some r else none := by
  split
  · rename_i hq
    exact find?_unique hr (by simp [hp, hq]) fun a ha h => hu a ha (by simp at h; exact h.1)
  · rename_i hq
    rw [List.find?_eq_none]
    intro a ha h
    simp only [Bool.and_eq_true] at h
    rw [hu a ha h.1] at h
    exact hq h.2

/-- in a list sorted by first component, the first element that satisfies `q` has the least first component of all that do -/
theorem find?_fst_le {ps : List (Nat × Nat)} (hs : List.Pairwise (· < ·) (ps.map (·.1))) {q : Nat × Nat → Bool}
    {p a : Nat × Nat} (hfind : ps.find? q = some p) (ha : a ∈ ps) (hqa : q a = true) : p.1 ≤ a.1 := by
  obtain ⟨_, pre, post, rfl, hpre⟩ := List.find?_eq_some_iff_append.1 hfind
  rw [List.map_append, List.map_cons, List.pairwise_append] at hs
  rcases List.mem_append.1 ha with h1 | h1
  · have := hpre _ h1
    simp [hqa] at this
  · rcases List.mem_cons.1 h1 with h2 | h2
    · rw [h2]; exact Nat.le_refl _
    · exact Nat.le_of_lt ((List.pairwise_cons.1 hs.2.1).1 a.1 (List.mem_map.2 ⟨_, h2, rfl⟩))

end Tyme.Fest

import Tyme.Model.Cache
/-! Helper lemmas for C10: injectivity of the delimited decimal key, invariant of the memo state machine. -/
namespace Tyme.Cache

def ofRev : List Nat → Nat
  | [] => 0
  | d :: ds => d + 10 * ofRev ds

theorem ofRev_digitsRev : ∀ f n, n < f → ofRev (digitsRev f n) = n := by
  intro f
  induction f with
  | zero => intro n h; omega
  | succ f ih =>
    intro n h
    simp only [digitsRev]
    split
    · simp [ofRev]
    · have := ih (n / 10) (by omega)
      simp only [ofRev, this]; omega

theorem digitsRev_lt : ∀ f n x, x ∈ digitsRev f n → x < 10 := by
  intro f
  induction f with
  | zero => intro n x h; simp [digitsRev] at h
  | succ f ih =>
    intro n x h
    simp only [digitsRev] at h
    split at h
    · simp at h; omega
    · simp only [List.mem_cons] at h
      rcases h with h | h
      · omega
      · exact ih _ _ h

theorem renderNat_inj (a b : Nat) (h : renderNat a = renderNat b) : a = b := by
  unfold renderNat at h
  have h1 := List.reverse_inj.1 h
  have h2 : digitsRev (a + 1) a = digitsRev (b + 1) b :=
    (List.map_inj_right (f := fun x : Nat => x + 48) (fun x y hxy => by simpa using hxy)).1 h1
  have := congrArg ofRev h2
  rwa [ofRev_digitsRev _ _ (by omega), ofRev_digitsRev _ _ (by omega)] at this

theorem renderNat_range (n x : Nat) (h : x ∈ renderNat n) : 48 ≤ x ∧ x ≤ 57 := by
  unfold renderNat at h
  simp only [List.mem_reverse, List.mem_map] at h
  obtain ⟨d, hd, rfl⟩ := h
  have := digitsRev_lt _ _ _ hd
  omega

theorem render_no_delim (i : Int) : 95 ∉ render i := by
  unfold render
  split
  · intro h
    simp only [List.mem_cons] at h
    rcases h with h | h
    · omega
    · have := renderNat_range _ _ h; omega
  · intro h; have := renderNat_range _ _ h; omega

theorem renderNat_ne_minus (n : Nat) (t : List Nat) : renderNat n ≠ 45 :: t := by
  intro h
  have := renderNat_range n 45 (by rw [h]; simp)
  omega

theorem render_inj (a b : Int) (h : render a = render b) : a = b := by
  unfold render at h
  split at h <;> split at h
  · simp only [List.cons.injEq, true_and] at h
    have := renderNat_inj _ _ h; omega
  · exact absurd h.symm (renderNat_ne_minus _ _)
  · exact absurd h (renderNat_ne_minus _ _)
  · have := renderNat_inj _ _ h; omega

theorem split_at_delim (s : Nat) : ∀ (a a' b b' : List Nat), s ∉ a → s ∉ a' →
    a ++ [s] ++ b = a' ++ [s] ++ b' → a = a' ∧ b = b'
  | [], [], _, _, _, _, h => ⟨rfl, (List.cons.inj h).2⟩
  | [], x :: _, _, _, _, h2, h => absurd (List.mem_cons.2 (Or.inl (List.cons.inj h).1)) h2
  | x :: _, [], _, _, h1, _, h => absurd (List.mem_cons.2 (Or.inl (List.cons.inj h).1.symm)) h1
  | x :: xs, y :: ys, b, b', h1, h2, h => by
    obtain ⟨rfl, ht⟩ := List.cons.inj h
    obtain ⟨rfl, e⟩ := split_at_delim s xs ys b b' (fun hh => h1 (List.mem_cons_of_mem _ hh)) (fun hh => h2 (List.mem_cons_of_mem _ hh)) ht
    exact ⟨rfl, e⟩

/-- every cached entry is the pure answer of the query its key renders -/
def Inv (kf : Int → Int → Key) (pure : Int → Int → Option Rec) (c : State) : Prop :=
  ∀ k v, lookup c k = some v → ∃ y m, kf y m = k ∧ pure y m = some v

/-- dropping the entries of another key does not change what a key finds -/
theorem lookup_filter_ne (c : State) (k k' : Key) (hne : ¬ k = k') :
    lookup (c.filter fun p => p.1 ≠ k) k' = lookup c k' := by
  induction c with
  | nil => rfl
  | cons p ps ih =>
    obtain ⟨pk, pv⟩ := p
    by_cases hp : pk = k
    · rw [List.filter_cons_of_neg (by simpa using hp), ih, lookup, if_neg (hp ▸ hne)]
    · rw [List.filter_cons_of_pos (by simpa using hp), lookup, lookup, ih]

theorem lookup_insert (c : State) (k k' : Key) (v : Rec) :
    lookup (insert c k v) k' = if k = k' then some v else lookup c k' := by
  unfold insert
  rw [lookup]
  split
  · rfl
  · rename_i hne
    exact lookup_filter_ne c k k' hne

theorem inv_insert (kf : Int → Int → Key) (pure : Int → Int → Option Rec) (c : State) (y m : Int) (v : Rec)
    (hi : Inv kf pure c) (hp : pure y m = some v) : Inv kf pure (insert c (kf y m) v) := by
  intro k w h
  rw [lookup_insert] at h
  split at h
  · rename_i hk
    simp only [Option.some.injEq] at h
    subst h
    exact ⟨y, m, hk, hp⟩
  · exact hi k w h

/-- either critical section keeps the invariant -/
theorem inv_mstep (kf : Int → Int → Key) (pure : Int → Int → Option Rec) (c : State) (o : MOp)
    (hi : Inv kf pure c) : Inv kf pure (mstep kf pure c o).1 := by
  cases o with
  | look y m => exact hi
  | ins y m =>
    simp only [mstep]
    split
    · exact hi
    · rename_i v hv
      exact inv_insert kf pure c y m v hi hv

/-- a call is a hit, or the insertion section run on its own request -/
theorem inv_step (kf : Int → Int → Key) (pure : Int → Int → Option Rec) (c : State) (q : Int × Int)
    (hi : Inv kf pure c) : Inv kf pure (step kf pure c q).1 := by
  unfold step
  split
  · exact hi
  · exact inv_mstep kf pure c (.ins q.1 q.2) hi

theorem inv_nil (kf : Int → Int → Key) (pure : Int → Int → Option Rec) : Inv kf pure [] := by
  intro k v h; simp [lookup] at h

end Tyme.Cache

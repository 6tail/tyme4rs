import Tyme.Model.LunarWeek
import Tyme.Lemmas.Week
import Tyme.Lemmas.LunarWalk
/-! Helper lemmas for the lunar half of C14: the lunar instance of `Wk.MonthOps` satisfies `Wk.Laws` on a tiling
interval of lunar years, and the literal model of `LunarWeek` (Model/LunarWeek.lean) agrees with the generic week
code there. -/
namespace Tyme.LWk
open Tyme Tyme.Wk Tyme.Lunar

/-- `lunarOps E` with `next`/`prev` cut at the ends of the interval: same first days, lengths, week counts -/
def lunarOpsOn (E : Eph) (a b : Int) : MonthOps Month where
  first := Lunar.first E
  len := Lunar.len E
  next := fun x => match Lunar.next E x 1 with
    | some x' => if x'.y ≤ b then some x' else none
    | none => none
  prev := fun x => match Lunar.next E x (-1) with
    | some x' => if a ≤ x'.y then some x' else none
    | none => none

/-- what the cut `next` answers: the answer of `LunarMonth::next(1)`, which is the successor on the listing and lies in
the interval -/
theorem on_next (E : Eph) (hl : ∀ y, E.leap y ≤ 12) (a b : Int) (m m' : Month) (hm : okOn E a b m)
    (h : (lunarOpsOn E a b).next m = some m') : Lunar.next E m 1 = some m' ∧ m' = succM E m ∧ okOn E a b m' := by
  unfold lunarOpsOn at h; dsimp only at h
  split at h
  · split at h
    · cases h
      rename_i h1 h2
      obtain ⟨w', e⟩ := next_one_inv E hl hm.1 h1
      exact ⟨h1, e, w', by have := e ▸ succM_year E m; have := hm.2.1; omega, h2⟩
    · cases h
  · cases h

theorem on_prev (E : Eph) (hl : ∀ y, E.leap y ≤ 12) (a b : Int) (m m' : Month) (hm : okOn E a b m)
    (h : (lunarOpsOn E a b).prev m = some m') : Lunar.next E m (-1) = some m' ∧ m = succM E m' ∧ okOn E a b m' := by
  unfold lunarOpsOn at h; dsimp only at h
  split at h
  · split at h
    · cases h
      rename_i h1 h2
      obtain ⟨w', e⟩ := next_neg_one_inv E hl hm.1 h1
      exact ⟨h1, e, w', h2, by have := e ▸ succM_year E m'; have := hm.2.2; omega⟩
    · cases h
  · cases h

theorem lunarLaws (E : Eph) (hl : ∀ y, E.leap y ≤ 12) (a b : Int) (ht : TilesOn E a b) :
    Laws (lunarOpsOn E a b) (okOn E a b) where
  next_ok := fun m m' hm hn => (on_next E hl a b m m' hm hn).2.2
  prev_ok := fun m m' hm hn => (on_prev E hl a b m m' hm hn).2.2
  next_first := fun m m' hm hn => (on_next E hl a b m m' hm hn).2.1 ▸ (hm.step ht).1
  prev_first := fun m m' hm hn => by
    obtain ⟨_, e, hm'⟩ := on_prev E hl a b m m' hm hn
    exact e ▸ (hm'.step ht).1
  len_lo := fun m hm => by have := (hm.step ht).2; show 8 ≤ Lunar.len E m; omega
  len_hi := fun m hm => by have := (hm.step ht).2; show Lunar.len E m ≤ 36; omega

theorem on_next_none (E : Eph) (hl : ∀ y, E.leap y ≤ 12) (a b : Int) (hb9 : b + 1 ≤ 9999) (ht : TilesOn E a b)
    (m : Month) (hm : okOn E a b m) (hn : (lunarOpsOn E a b).next m = none) :
    Lunar.first E m + Lunar.len E m = Lunar.first E ⟨b + 1, 0⟩ := by
  have h1 := next_one E hl m hm.1 (Or.inr (by have := hm.2.2; omega))
  have hts := (hm.step ht).1
  unfold lunarOpsOn at hn; dsimp only at hn
  rw [h1] at hn; dsimp only at hn
  split at hn
  · cases hn
  · rename_i hgt
    rcases succM_on hm (WF_succM E m hm.1 (Or.inr (by have := hm.2.2; omega))) with h | h
    · exact absurd h.2.2 hgt
    · rw [h] at hts; omega

theorem on_prev_none (E : Eph) (hl : ∀ y, E.leap y ≤ 12) (a b : Int) (ha0 : 0 ≤ a)
    (m : Month) (hm : okOn E a b m) (hn : (lunarOpsOn E a b).prev m = none) : m = ⟨a, 0⟩ := by
  by_cases hz : m.y = 0 ∧ m.idx = 0
  · have : a = 0 := by have := hm.2.1; omega
    cases m; simp only at hz; obtain ⟨rfl, rfl⟩ := hz; rw [this]
  · obtain ⟨r, hr, wr, hs⟩ := next_neg_one E hl m hm.1 hz
    unfold lunarOpsOn at hn; dsimp only at hn
    rw [hr] at hn; dsimp only at hn
    split at hn
    · cases hn
    · rename_i hlt
      rcases pred_on wr (hs ▸ hm) with h | h
      · exact absurd h.2.1 hlt
      · rw [hs, h]

theorem daySolar_in_range (E : Eph) (x : Month) (k : Int)
    (h1 : jdnFirst ≤ Lunar.first E x + k - 1) (h2 : Lunar.first E x + k - 1 ≤ jdnLast) :
    daySolar E x k = some (ofJdn (Lunar.first E x + k - 1)) :=
  (ofJdn_guard_iff _ _).2 ⟨h1, h2, rfl⟩

theorem dayWeek_eq (E : Eph) (x : Month) (h1 : jdnFirst ≤ Lunar.first E x) (h2 : Lunar.first E x ≤ jdnLast) :
    dayWeek E (x, 1) = some (weekOfJdn (Lunar.first E x)) := by
  have e : Lunar.first E x + 1 - 1 = Lunar.first E x := by omega
  unfold dayWeek
  dsimp only
  rw [daySolar_in_range E x 1 (by omega) (by omega), e]
  exact congrArg (fun j => some (weekOfJdn j)) (C01_jdn_ofJdn _ h1 h2).2

theorem firstLunarDay_eq (E : Eph) (hl : ∀ y, E.leap y ≤ 12) (x : Month) (hx : WF E x) (hlen : 1 ≤ Lunar.len E x) :
    firstLunarDay E x = some (x, 1) :=
  dayNew_mwl E hl x hx 1 (Int.le_refl 1) hlen

/-- hypotheses under which the literal model is compared with the generic code: a tiling interval of lunar years
whose months all begin on civil dates of the supported range -/
structure Good (E : Eph) (a b : Int) : Prop where
  leap_le : ∀ y, E.leap y ≤ 12
  a1 : 1 ≤ a
  b9 : b + 1 ≤ 9999
  tiles : TilesOn E a b
  lo : jdnFirst ≤ Lunar.first E ⟨a, 0⟩
  hi : Lunar.first E ⟨b + 1, 0⟩ ≤ jdnLast + 1

theorem Good.rep {E : Eph} {a b : Int} (G : Good E a b) (x : Month) (hx : okOn E a b x) :
    jdnFirst ≤ Lunar.first E x ∧ Lunar.first E x + Lunar.len E x - 1 ≤ jdnLast ∧
    (Lunar.len E x = 29 ∨ Lunar.len E x = 30) := by
  have := interval_bounds G.tiles hx
  have := G.lo; have := G.hi
  exact ⟨by omega, by omega, (hx.step G.tiles).2⟩

theorem Good.wd {E : Eph} {a b : Int} (G : Good E a b) (x : Month) (hx : okOn E a b x) :
    wdFirst E x = some (weekOfJdn (Lunar.first E x)) := by
  obtain ⟨r1, r2, r3⟩ := G.rep x hx
  unfold wdFirst
  rw [firstLunarDay_eq E G.leap_le x hx.1 (by omega)]
  exact dayWeek_eq E x r1 (by omega)

theorem lfwd_of_fwd {E : Eph} {a b : Int} (G : Good E a b) (s : Int) :
    ∀ (fuel : Nat) (m : Month) (d : Int) (r : Month × Int), okOn E a b m →
      fwd (lunarOpsOn E a b) s fuel m d = some r → lfwd E s fuel m d = some r ∧ okOn E a b r.1 := by
  intro fuel
  induction fuel with
  | zero =>
    intro m d r hm h
    unfold fwd at h
    unfold lfwd
    split at h
    · cases h
    · rw [if_neg (by assumption)]; cases h; exact ⟨rfl, hm⟩
  | succ fuel ih =>
    intro m d r hm h
    unfold fwd at h
    unfold lfwd
    split at h
    · rw [if_pos (by assumption)]
      dsimp only at h ⊢
      split at h
      · cases h
      · rename_i m' hn
        obtain ⟨h1, _, hm'⟩ := on_next E G.leap_le a b m m' hm hn
        rw [h1]
        dsimp only
        rw [G.wd m' hm']
        exact ih m' _ r hm' h
    · rw [if_neg (by assumption)]; cases h; exact ⟨rfl, hm⟩

theorem lbwd_of_bwd {E : Eph} {a b : Int} (G : Good E a b) (s : Int) :
    ∀ (fuel : Nat) (m : Month) (d : Int) (r : Month × Int), okOn E a b m →
      bwd (lunarOpsOn E a b) s fuel m d = some r → lbwd E s fuel m d = some r ∧ okOn E a b r.1 := by
  intro fuel
  induction fuel with
  | zero =>
    intro m d r hm h
    unfold bwd at h
    unfold lbwd
    split at h
    · cases h
    · rw [if_neg (by assumption)]; cases h; exact ⟨rfl, hm⟩
  | succ fuel ih =>
    intro m d r hm h
    unfold bwd at h
    unfold lbwd
    split at h
    · rw [if_pos (by assumption)]
      dsimp only at h ⊢
      split at h
      · cases h
      · rename_i m' hn
        obtain ⟨h1, _, hm'⟩ := on_prev E G.leap_le a b m m' hm hn
        rw [G.wd m hm]
        dsimp only
        rw [h1]
        exact ih m' _ r hm' h
    · rw [if_neg (by assumption)]; cases h; exact ⟨rfl, hm⟩

theorem lunarWeekNew_eq (E : Eph) (y m i s : Int) :
    lunarWeekNew E y m i s = (fromYm E y m).bind fun x => weekNew (lunarOps E) x i s := by
  unfold lunarWeekNew
  cases fromYm E y m with
  | none =>
    dsimp only [Option.bind]
    repeat' split
    all_goals rfl
  | some x => rfl

/-- `LunarWeek::next(n)`: whenever the generic stepping over the cut instance answers, so does the literal model,
with the same week -/
theorem lunarWeekNext_of {E : Eph} {a b : Int} (G : Good E a b) (w : LunarWeek)
    (hw : WeekOk (lunarOpsOn E a b) (okOn E a b) w) (n : Int) (w' : LunarWeek)
    (h : weekNext (lunarOpsOn E a b) w n = some w') : lunarWeekNext E w n = some w' := by
  -- the final `from_ym(m.get_year(), m.get_month_with_leap(), ..)` reconstructs the month the loop ended in
  have fin : ∀ r : Month × Int, okOn E a b r.1 →
      lunarWeekNew E r.1.y (monthWithLeap E r.1) r.2 w.start = weekNew (lunarOpsOn E a b) r.1 r.2 w.start :=
    fun r hr => by rw [lunarWeekNew_eq, fromYm_mwl E G.leap_le r.1 hr.1]; rfl
  unfold weekNext at h
  unfold lunarWeekNext
  dsimp only at h ⊢
  by_cases hn : n > 0
  · rw [if_neg (by omega), if_pos hn]
    rw [if_pos hn] at h
    split at h
    · cases h
    · rename_i m' d' hf
      obtain ⟨e, hr⟩ := lfwd_of_fwd G w.start _ _ _ _ hw.1 hf
      rw [e]
      exact (fin (m', d') hr).trans h
  · rw [if_neg hn] at h
    by_cases hn2 : n < 0
    · rw [if_neg (by omega), if_neg hn]
      rw [if_pos hn2] at h
      split at h
      · cases h
      · rename_i m' d' hf
        obtain ⟨e, hr⟩ := lbwd_of_bwd G w.start _ _ _ _ hw.1 hf
        rw [e]
        exact (fin (m', d') hr).trans h
    · obtain rfl : n = 0 := by omega
      rw [if_neg hn2] at h
      obtain ⟨rfl, _⟩ := (weekNew_iff _ _ _ _ _).1 h
      rw [if_pos rfl, Int.add_zero]

theorem Good.weekNext {E : Eph} {a b : Int} (G : Good E a b) (w : LunarWeek)
    (hw : WeekOk (lunarOpsOn E a b) (okOn E a b) w) (n : Int) :
    (∀ w', weekNext (lunarOpsOn E a b) w n = some w' → WeekOk (lunarOpsOn E a b) (okOn E a b) w' ∧ w'.start = w.start ∧
      firstJ (lunarOps E) w' = firstJ (lunarOps E) w + 7 * n) ∧
    (weekNext (lunarOpsOn E a b) w n = none →
      (0 < n ∧ Lunar.first E ⟨b + 1, 0⟩ ≤ firstJ (lunarOps E) w + 7 * n) ∨
      (n < 0 ∧ firstJ (lunarOps E) w + 7 * n + 7 ≤ Lunar.first E ⟨a, 0⟩)) :=
  weekNext_ends (lunarOpsOn E a b) (okOn E a b) (lunarLaws E G.leap_le a b G.tiles) _ _ (on_next_none E G.leap_le a b G.b9 G.tiles)
    (fun m hm hn => by rw [on_prev_none E G.leap_le a b (Int.le_of_lt G.a1) m hm hn]; rfl) w hw n

/-- `LunarDay::next(n)`, n ≠ 0, from day k of a month of a good interval is `get_lunar_day` of the civil date with day
number T = (day number of the day) + n, as long as T is the day number of a civil date -/
theorem lunarDayNext_eq {E : Eph} {a b : Int} (G : Good E a b) (x : Month) (k : Int) (hx : okOn E a b x)
    (hk1 : 1 ≤ k) (hk2 : k ≤ Lunar.len E x) (n T : Int) (hT : Lunar.first E x + k - 1 + n = T) (hn : n ≠ 0)
    (h1 : jdnFirst ≤ T) (h2 : T ≤ jdnLast) :
    lunarDayNext E (x, k) n = ofSolar E (ofJdn T).1 (ofJdn T).2.1 (ofJdn T).2.2 := by
  obtain ⟨r1, r2, _⟩ := G.rep x hx
  unfold lunarDayNext
  rw [if_neg hn]
  dsimp only
  rw [daySolar_in_range E x k (by omega) (by omega)]
  dsimp only
  have e := (C01_jdn_ofJdn (Lunar.first E x + k - 1) (by omega) (by omega)).2
  rw [(dayNext_iff _ _ n).2 ⟨by rw [e, hT]; exact h1, by rw [e, hT]; exact h2, rfl⟩, e, hT]

/-- `LunarWeek::get_first_day` of a well-formed week is `first_day.next(index*7 − off)` from day 1 of its month, which
has day number `firstJ`; that day lies before the end of the interval -/
theorem lunarWeekFirstDay_eq {E : Eph} {a b : Int} (G : Good E a b) (w : LunarWeek)
    (hw : WeekOk (lunarOpsOn E a b) (okOn E a b) w) :
    lunarWeekFirstDay E w = lunarDayNext E (w.month, 1) (firstShift (lunarOps E) w) ∧ 1 ≤ Lunar.len E w.month ∧
    Lunar.first E w.month + 1 - 1 + firstShift (lunarOps E) w = firstJ (lunarOps E) w ∧
    firstJ (lunarOps E) w < Lunar.first E ⟨b + 1, 0⟩ := by
  obtain ⟨r1, r2, r3⟩ := G.rep w.month hw.1
  have hb := interval_bounds G.tiles hw.1
  have hm : firstJ (lunarOps E) w ≤ Lunar.first E w.month + Lunar.len E w.month - 1 := hw.meets.1
  refine ⟨?_, by omega, by show _ = Lunar.first E w.month + firstShift (lunarOps E) w; omega, by omega⟩
  unfold lunarWeekFirstDay
  rw [firstLunarDay_eq E G.leap_le w.month hw.1.1 (by omega)]
  dsimp only
  rw [dayWeek_eq E w.month r1 (by omega)]
  rfl

theorem lunarWeekNew_iff (E : Eph) (y m i s : Int) (w : LunarWeek) :
    lunarWeekNew E y m i s = some w ↔
      ∃ x, fromYm E y m = some x ∧ w = ⟨x, i, s⟩ ∧ 0 ≤ s ∧ s ≤ 6 ∧ 0 ≤ i ∧ i ≤ 5 ∧ i < monthWeekCount E x s := by
  rw [lunarWeekNew_eq]
  cases fromYm E y m with
  | none => simp
  | some x =>
    simp only [Option.bind, weekNew_iff, Option.some.injEq, exists_eq_left']
    exact ⟨fun ⟨a, b, c, d, e, f⟩ => ⟨a, d, e, b, c, f⟩, fun ⟨a, d, e, b, c, f⟩ => ⟨a, b, c, d, e, f⟩⟩

theorem monthWeekCount_bounds (E : Eph) (x : Month) (s : Int) (h : Lunar.len E x = 29 ∨ Lunar.len E x = 30) :
    5 ≤ monthWeekCount E x s ∧ monthWeekCount E x s ≤ 6 := by
  unfold monthWeekCount
  rw [weekCount_eq]
  have e : (lunarOps E).len x = Lunar.len E x := rfl
  rw [e]
  omega

theorem lunarWeeks_iff (E : Eph) (y m s : Int) (x : Month) (hx : fromYm E y m = some x)
    (hlen : Lunar.len E x = 29 ∨ Lunar.len E x = 30) (hs : 0 ≤ s ∧ s ≤ 6) (l : List LunarWeek) :
    lunarWeeks E y m s = some l ↔
      (l.length = (monthWeekCount E x s).toNat ∧ ∀ (k : Nat) (hk : k < l.length), l[k] = ⟨x, k, s⟩) := by
  have hb := monthWeekCount_bounds E x s hlen
  unfold lunarWeeks lunarWeekCount
  rw [hx]
  dsimp only
  rw [if_neg (by omega)]
  dsimp only
  rw [mapM_range_iff]
  simp only [lunarWeekNew_iff, hx, Option.some.injEq, exists_eq_left']
  exact ⟨fun ⟨h1, h2⟩ => ⟨h1, fun k hk => (h2 k hk).1⟩,
    fun ⟨h1, h2⟩ => ⟨h1, fun k hk => ⟨h2 k hk, hs.1, hs.2, by omega, by omega, by omega⟩⟩⟩

end Tyme.LWk

import Tyme.Lemmas.EphFacts
import Tyme.Thm.C06
import Tyme.Thm.C08
/-!
The sexagenary year and month of a civil day, read off the term that contains it — for ANY ephemeris with the named term
facts. `SixtyCycleDay::from_solar_day` computes the year pillar from the LUNAR year of the day (adjusted around Lichun) and
the month pillar from the first month of the lunar year numbered like the CIVIL year (stepped by a month offset of the
term index); `day_view_spec` says that both are what the term sequence alone dictates.
-/
namespace Tyme.Cont
open Tyme SC

/-- END-TO-END (C08), any ephemeris with the term facts: whenever `SixtyCycleDay::from_solar_day` returns for a date of a
civil year ≤ 9998 whose lunar year the adjustment handles, the term g that `get_term_day` found is the cell of the day on
the line of term days, it is one of the 26 terms of the civil year, it precedes Lichun exactly when the day does, and the
year pillar and the month pillar are those of the sexagenary year 1 + N div 12 and of the month with ordinal N = ⌊(g−3)/2⌋:
the month pillars run through one sixty-cycle along the months of all years. -/
theorem day_view_spec (E : Eph) (tf : TermFacts E) (Y M D : Int) (hv : Civil.valid Y M D = true) (hY : Y ≤ 9998)
    (v : DayView) (hview : ofSolarDay E Y M D = some v) (hLY : LunarYearOK E Y M D) :
    ∃ (g : Nat) (kk : Int), Term.ofDay E Y M D = some (g, kk) ∧
      1 ≤ g ∧ 24 * (Y - 1) ≤ (g : Int) ∧ (g : Int) ≤ 24 * (Y - 1) + 25 ∧ E.termDay g ≤ jdn Y M D ∧ jdn Y M D < E.termDay (g + 1) ∧
      (jdn Y M D < E.termDay (24 * (Y - 1) + 3).toNat ↔ (g : Int) < 24 * (Y - 1) + 3) ∧
      v.year = yearPillar (monthOrd g / 12 + 1) ∧ v.month = (monthOrd g + 26) % 60 := by
  obtain ⟨x, k, g, kk, hr, hg, hyr, hmo, _⟩ := ofSolarDay_inv E Y M D v hview
  obtain ⟨t1, t2, t3, _, _⟩ := C06_ofDay_spec E Y M D g kk hg
  obtain ⟨g1, glo, ghi, t3'⟩ := term_of_civil tf Y M D hv hY g t1 t2 t3
  obtain ⟨hY1, _⟩ := (valid_iff Y M D).1 hv
  obtain ⟨hbef, ry, rm⟩ := year_month_on_line (termDay_step tf) Y x.y g (jdn Y M D) g1 (by omega) t2 t3' ⟨glo, ghi⟩ hY1 (by omega)
    (hLY x k hr)
  exact ⟨g, kk, hg, g1, glo, ghi, t2, t3', hbef, by rw [hyr, ry], by rw [hmo]; omega⟩

end Tyme.Cont

import Tyme.Lemmas.EphFacts
/-! TOTALITY of `SolarDay::get_term_day`: the walk back from the guessed term and forward again returns within its fuel
of 30 rounds, because the guess 24(Y−1) + 2M is at most 24 places past a term that starts on or before the day, and
Lichun of the next year starts after it. -/
namespace Tyme.Cont
open Tyme Term

theorem ofDay_total (E : Eph) (tf : TermFacts E) (Y M D : Int) (hv : Civil.valid Y M D = true) (hY : Y ≤ 9998)
    (h1 : E.termDay 1 ≤ jdn Y M D) : ∃ r, ofDay E Y M D = some r := by
  obtain ⟨hY1, _, hM1, hM12, _⟩ := (valid_iff Y M D).1 hv
  obtain ⟨yb1, yb2⟩ := jdn_year_bounds Y M D hv
  -- a term on or before the day, at most 24 places before the guess: the winter solstice before January 1
  have hlo : ∃ lo : Nat, 1 ≤ lo ∧ E.termDay lo ≤ jdn Y M D ∧ lo ≤ (24 * (Y - 1) + 2 * M).toNat ∧
      (24 * (Y - 1) + 2 * M).toNat - lo ≤ 24 := by
    by_cases hy1 : Y = 1
    · subst hy1; exact ⟨1, by omega, h1, by omega, by omega⟩
    · have dz := tf.dongzhiI Y (by omega) (by omega)
      exact ⟨(24 * (Y - 1)).toNat, by omega, by omega, by omega, by omega⟩
  obtain ⟨lo, l1, l2, l3, l4⟩ := hlo
  -- Lichun of the next year is after the day
  have lc := (tf.lichunI (Y + 1) (by omega) (by omega)).1
  obtain ⟨r, hr⟩ := locate_total (Z := E.termDay) (hi := (24 * (Y + 1 - 1) + 3).toNat) (g := (24 * (Y - 1) + 2 * M).toNat) (F := 30)
    l2 (by omega) (fun x _ _ => (tf.ne_zero_iff x).2 ⟨by omega, by omega⟩) l3 (by omega) (by omega) (by omega)
  rw [ofDay_eq, if_neg (by omega), show FUEL = 30 from rfl, hr]
  exact ⟨_, rfl⟩

end Tyme.Cont

import Tyme.Lemmas.LunarWeek
import Tyme.Lemmas.LunarTotal
/-! Helper lemmas for the first day and the seven days of a lunar week inside a good interval: what `LunarDay::next(n)`,
`LunarWeek::get_first_day` and `LunarWeek::get_days` return (through `ofSolar_spec`) and, for an ephemeris with the
new-year facts, that they return (the guess-and-walk of `SolarDay::get_lunar_day` never runs out of fuel:
`Cont.ofSolar_total`); the seven days of a week of a month at least one lunar year inside the interval lie in the
interval and in the civil years a..b. -/
namespace Tyme.LWk
open Tyme Tyme.Wk Tyme.Lunar Tyme.Cont

/-- a tiling interval of lunar years 1 ≤ a .. b ≤ 9998 is good: the lunar new year falls at most 5 days before and 59
days after January 1 of its year (`NewYearFacts`), so every month of the interval begins on a date of 0001..9999 -/
theorem good_of_tiles (E : Eph) (hl : ∀ y, E.leap y ≤ 12) (nf : NewYearFacts E) (hF1 : 1721424 ≤ E.mFirst 1 0)
    (a b : Int) (ha : 1 ≤ a) (hab : a ≤ b) (hb : b + 1 ≤ 9999) (ht : TilesOn E a b) : Good E a b where
  leap_le := hl
  a1 := ha
  b9 := hb
  tiles := ht
  lo := (nf.first_in_range hF1 a ha (by omega)).1
  hi := (nf.first_in_range hF1 (b + 1) (by omega) hb).2

/-- `LunarDay::next(n)` inside a good interval, for a target day number T that lies in the interval and in the civil years
a..b (the guess-and-walk of `get_lunar_day` starts at the lunar month numbered like the civil month): whatever it answers
is the lunar day (month of the interval, day 1..len) with day number T; with the new-year facts it does answer -/
theorem lunarDayNext_correct {E : Eph} {a b : Int} (G : Good E a b) (x : Month) (k : Int) (hx : okOn E a b x)
    (hk1 : 1 ≤ k) (hk2 : k ≤ Lunar.len E x) (n T : Int) (hT : Lunar.first E x + k - 1 + n = T)
    (hY : a ≤ (ofJdn T).1 ∧ (ofJdn T).1 ≤ b)
    (hlo : Lunar.first E ⟨a, 0⟩ ≤ T) (hhi : T < Lunar.first E ⟨b + 1, 0⟩) :
    (∀ r : LDay, lunarDayNext E (x, k) n = some r →
      okOn E a b r.1 ∧ 1 ≤ r.2 ∧ r.2 ≤ Lunar.len E r.1 ∧ Lunar.first E r.1 + r.2 - 1 = T) ∧
    (NewYearFacts E → 1721424 ≤ E.mFirst 1 0 → ∃ r, lunarDayNext E (x, k) n = some r) := by
  by_cases hn : n = 0
  · subst hn
    refine ⟨fun r h => ?_, fun _ _ => ⟨(x, k), rfl⟩⟩
    obtain rfl : (x, k) = r := by simpa [lunarDayNext] using h
    exact ⟨hx, hk1, hk2, by dsimp only; omega⟩
  · have glo := G.lo
    have ghi := G.hi
    obtain ⟨v, e⟩ := C01_jdn_ofJdn T (by omega) (by omega)
    have e : jdn (ofJdn T).1 (ofJdn T).2.1 (ofJdn T).2.2 = T := e
    rw [lunarDayNext_eq G x k hx hk1 hk2 n T hT hn (by omega) (by omega)]
    refine ⟨fun r h => ?_, fun nf hF1 => ?_⟩
    · obtain ⟨w, b1, b2, b3, b4, b5⟩ :=
        ofSolar_spec E G.leap_le a b G.tiles _ _ _ hY.1 hY.2 (by rw [e]; exact hlo) (by rw [e]; exact hhi) r h
      exact ⟨⟨w, b1, b2⟩, b4, b5, e ▸ b3⟩
    · exact ofSolar_total E G.leap_le nf hF1 a b (Int.le_of_lt G.a1) G.b9 G.tiles _ _ _ v hY.1 hY.2
        (by rw [e]; exact hlo) (by rw [e]; exact hhi)

/-- `LunarWeek::get_first_day`: the day number `firstJ` falls on the start weekday, and whatever is returned is the
lunar day (month of the interval, day 1..len) with that day number, whose civil date is the date with that day number;
with the new-year facts the call returns -/
theorem lunarWeekFirstDay_total {E : Eph} {a b : Int} (G : Good E a b) (w : LunarWeek)
    (hw : WeekOk (lunarOpsOn E a b) (okOn E a b) w)
    (hY : a ≤ (ofJdn (firstJ (lunarOps E) w)).1 ∧ (ofJdn (firstJ (lunarOps E) w)).1 ≤ b)
    (hlo : Lunar.first E ⟨a, 0⟩ ≤ firstJ (lunarOps E) w) :
    (∀ r : LDay, lunarWeekFirstDay E w = some r →
      weekOfJdn (firstJ (lunarOps E) w) = w.start ∧
      okOn E a b r.1 ∧ 1 ≤ r.2 ∧ r.2 ≤ Lunar.len E r.1 ∧
      Lunar.first E r.1 + r.2 - 1 = firstJ (lunarOps E) w ∧
      daySolar E r.1 r.2 = some (ofJdn (firstJ (lunarOps E) w))) ∧
    (NewYearFacts E → 1721424 ≤ E.mFirst 1 0 → ∃ r, lunarWeekFirstDay E w = some r) := by
  obtain ⟨e, hlen, eJ, hhi⟩ := lunarWeekFirstDay_eq G w hw
  obtain ⟨sp, tot⟩ := lunarDayNext_correct G w.month 1 hw.1 (Int.le_refl 1) hlen _ _ eJ hY hlo hhi
  rw [e]
  refine ⟨fun r h => ?_, tot⟩
  obtain ⟨o, k1, k2, d⟩ := sp r h
  obtain ⟨r1, r2, _⟩ := G.rep r.1 o
  exact ⟨J_weekday (lunarOps E) w.start w.month w.index ⟨hw.2.1, hw.2.2.1⟩, o, k1, k2, d,
    d ▸ daySolar_in_range E r.1 r.2 (by omega) (by omega)⟩

/-- `LunarWeek::get_days`: whatever is returned are 7 lunar days (month of the interval, day 1..len) with the day numbers
firstJ .. firstJ+6; with the new-year facts the call returns -/
theorem lunarWeekDays_total {E : Eph} {a b : Int} (G : Good E a b) (w : LunarWeek)
    (hw : WeekOk (lunarOpsOn E a b) (okOn E a b) w)
    (hY : ∀ k : Nat, k < 7 → a ≤ (ofJdn (firstJ (lunarOps E) w + k)).1 ∧ (ofJdn (firstJ (lunarOps E) w + k)).1 ≤ b)
    (hlo : Lunar.first E ⟨a, 0⟩ ≤ firstJ (lunarOps E) w)
    (hhi : firstJ (lunarOps E) w + 6 < Lunar.first E ⟨b + 1, 0⟩) :
    (∀ l : List LDay, lunarWeekDays E w = some l → l.length = 7 ∧ ∀ (k : Nat) (hk : k < l.length),
      okOn E a b l[k].1 ∧ 1 ≤ l[k].2 ∧ l[k].2 ≤ Lunar.len E l[k].1 ∧
      Lunar.first E l[k].1 + l[k].2 - 1 = firstJ (lunarOps E) w + k) ∧
    (NewYearFacts E → 1721424 ≤ E.mFirst 1 0 → ∃ l, lunarWeekDays E w = some l) := by
  have h0 := hY 0 (by omega)
  rw [Int.natCast_zero, Int.add_zero] at h0
  obtain ⟨sp, tot⟩ := lunarWeekFirstDay_total G w hw h0 hlo
  unfold lunarWeekDays
  constructor
  · intro l h
    split at h
    · cases h
    · rename_i d hf
      obtain ⟨_, d1, d3, d4, d2, _⟩ := sp d hf
      obtain ⟨hl, hall⟩ := (mapM_range_iff _ 7 l).1 h
      refine ⟨hl, fun k hk => ?_⟩
      have := hall k hk
      split at this
      · rename_i hk0
        cases this
        subst hk0
        exact ⟨d1, d3, d4, by omega⟩
      · exact (lunarDayNext_correct G d.1 d.2 d1 d3 d4 k _ (by rw [d2]) (hY k (by omega)) (by omega) (by omega)).1 l[k] this
  · intro nf hF1
    obtain ⟨d, hf⟩ := tot nf hF1
    obtain ⟨_, d1, d3, d4, d2, _⟩ := sp d hf
    rw [hf]
    apply mapM_range_total
    intro k hk
    split
    · exact ⟨_, rfl⟩
    · exact (lunarDayNext_correct G d.1 d.2 d1 d3 d4 k _ (by rw [d2]) (hY k hk) (by omega) (by omega)).2 nf hF1

/-- the days firstJ .. firstJ+6 of a well-formed week of a month at least one lunar year inside a good interval lie
in the interval and in the civil years a..b (the lunar new year falls within 5 days before .. 59 days after January 1) -/
theorem week_days_inside {E : Eph} {a b : Int} (G : Good E a b) (nf : NewYearFacts E) (w : LunarWeek)
    (hw : WeekOk (lunarOpsOn E a b) (okOn E a b) w) (hya : a + 1 ≤ w.month.y) (hyb : w.month.y + 1 ≤ b)
    (j : Int) (hj1 : firstJ (lunarOps E) w ≤ j) (hj2 : j ≤ firstJ (lunarOps E) w + 6) :
    a ≤ (ofJdn j).1 ∧ (ofJdn j).1 ≤ b ∧ Lunar.first E ⟨a, 0⟩ ≤ j ∧ j < Lunar.first E ⟨b + 1, 0⟩ := by
  have hmeet : firstJ (lunarOps E) w ≤ Lunar.first E w.month + Lunar.len E w.month - 1 ∧
      Lunar.first E w.month ≤ firstJ (lunarOps E) w + 6 := hw.meets
  have ha1 := G.a1
  have hb9 := G.b9
  obtain ⟨m1, m2⟩ := month_in_year G.tiles hw.1
  -- new-year windows of the lunar years y, y+1: j lies in the civil years y−1 .. y+1
  have wy := (nf.winI w.month.y (by omega) (by omega)).1
  have wy1 := (nf.winI (w.month.y + 1) (by omega) (by omega)).2
  have s0 := jan1_step (w.month.y - 1)
  rw [show w.month.y - 1 + 1 = w.month.y by omega] at s0
  have s1 := jan1_step (w.month.y + 1)
  have sb := jan1_strict (w.month.y + 1) (b + 1) (by omega)
  obtain ⟨_, _, y1, y2⟩ := jdn_year_range j (w.month.y - 1) (w.month.y + 1) (by omega) (by omega) (by omega) (by omega) (by omega)
  have sp := span_of_day nf a b (by omega) (by omega) hb9 j (w.month.y - 1) (by omega) (by omega)
    (by split <;> omega) (by omega)
  exact ⟨by omega, by omega, sp⟩

theorem lunarWeekFirstDay_inside {E : Eph} {a b : Int} (G : Good E a b) (nf : NewYearFacts E)
    (hF1 : 1721424 ≤ E.mFirst 1 0) (w : LunarWeek) (hw : WeekOk (lunarOpsOn E a b) (okOn E a b) w)
    (hya : a + 1 ≤ w.month.y) (hyb : w.month.y + 1 ≤ b) :
    ∃ r, lunarWeekFirstDay E w = some r ∧
      weekOfJdn (firstJ (lunarOps E) w) = w.start ∧
      okOn E a b r.1 ∧ 1 ≤ r.2 ∧ r.2 ≤ Lunar.len E r.1 ∧
      Lunar.first E r.1 + r.2 - 1 = firstJ (lunarOps E) w ∧
      daySolar E r.1 r.2 = some (ofJdn (firstJ (lunarOps E) w)) := by
  obtain ⟨i1, i2, i3, _⟩ := week_days_inside G nf w hw hya hyb (firstJ (lunarOps E) w) (Int.le_refl _) (by omega)
  obtain ⟨sp, tot⟩ := lunarWeekFirstDay_total G w hw ⟨i1, i2⟩ i3
  obtain ⟨r, hr⟩ := tot nf hF1
  exact ⟨r, hr, sp r hr⟩

theorem lunarWeekDays_inside {E : Eph} {a b : Int} (G : Good E a b) (nf : NewYearFacts E)
    (hF1 : 1721424 ≤ E.mFirst 1 0) (w : LunarWeek) (hw : WeekOk (lunarOpsOn E a b) (okOn E a b) w)
    (hya : a + 1 ≤ w.month.y) (hyb : w.month.y + 1 ≤ b) :
    ∃ l, lunarWeekDays E w = some l ∧ l.length = 7 ∧ ∀ (k : Nat) (hk : k < l.length),
      okOn E a b l[k].1 ∧ 1 ≤ l[k].2 ∧ l[k].2 ≤ Lunar.len E l[k].1 ∧
      Lunar.first E l[k].1 + l[k].2 - 1 = firstJ (lunarOps E) w + k := by
  have hin := fun (k : Nat) (hk : k < 7) =>
    week_days_inside G nf w hw hya hyb (firstJ (lunarOps E) w + k) (by omega) (by omega)
  have hY := fun k hk => And.intro (hin k hk).1 (hin k hk).2.1
  have hlo : Lunar.first E ⟨a, 0⟩ ≤ firstJ (lunarOps E) w := by simpa using (hin 0 (by omega)).2.2.1
  have hhi : firstJ (lunarOps E) w + 6 < Lunar.first E ⟨b + 1, 0⟩ := (hin 6 (by omega)).2.2.2
  obtain ⟨sp, tot⟩ := lunarWeekDays_total G w hw hY hlo hhi
  obtain ⟨l, hl⟩ := tot nf hF1
  exact ⟨l, hl, sp l hl⟩

end Tyme.LWk

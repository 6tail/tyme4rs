import Tyme.Model.Series
import Tyme.Spec.Series
import Tyme.Lemmas.IndexOf
import Tyme.Thm.Total
/-!
The term-anchored day series (C15). Three layers: the spec's searches (`Countdown`: first / n-th day of a stem or branch)
and its function forms against its relational forms; each getter of Model/Series against its spec function for ANY
ephemeris, given the days of its anchor terms (`nine_eq` … `hide_eq`); and, for any table with the term facts of C13, where
a civil year sits on the term line (`year_frame`, `yearly_series`), from which one statement per series follows
(`nine_spec`, `dog_spec`, `plum_spec`, `pheno_spec`, `hide_spec`: all five for any ephemeris with the term facts).
-/
namespace Tyme
open Term SeriesSpec Series Lunar Cont

theorem Series.indexOf_eq_emod (i n : Int) (hn : 0 < n) : Series.indexOf i n = i % n := tmod_repair i n hn

theorem IsFirst_unique (p : Int → Bool) (s j j' : Int) (h : IsFirst p s j) (h' : IsFirst p s j') : j = j' := by
  obtain ⟨a1, a2, a3⟩ := h
  obtain ⟨b1, b2, b3⟩ := h'
  rcases Int.lt_trichotomy j j' with c | c | c
  · have := b3 j a1 c; rw [a2] at this; cases this
  · exact c
  · have := a3 j' b1 c; rw [b2] at this; cases this

theorem firstFrom_spec (p : Int → Bool) : ∀ (n : Nat) (s j : Int), firstFrom p s n = some j →
    IsFirst p s j ∧ j < s + n := by
  intro n
  induction n with
  | zero => intro s j h; simp [firstFrom] at h
  | succ n ih =>
    intro s j h
    simp only [firstFrom] at h
    split at h
    · simp only [Option.some.injEq] at h; subst h
      rename_i hp
      exact ⟨⟨Int.le_refl _, hp, fun i h1 h2 => by omega⟩, by omega⟩
    · rename_i hp
      obtain ⟨⟨a1, a2, a3⟩, a4⟩ := ih _ _ h
      refine ⟨⟨by omega, a2, ?_⟩, by omega⟩
      intro i h1 h2
      by_cases e : i = s
      · subst e; simpa using hp
      · exact a3 i (by omega) h2

/-- `d s` is the number of days from day s to the next day with p, and the days with p come every `P` days -/
structure Countdown (p : Int → Bool) (d : Int → Int) (P : Int) : Prop where
  nonneg : ∀ s, 0 ≤ d s
  hit : ∀ s, p s = true ↔ d s = 0
  step : ∀ s, d s ≠ 0 → d (s + 1) = d s - 1
  wrap : ∀ s, d s = 0 → d (s + 1) = P - 1

namespace Countdown
variable {p : Int → Bool} {d : Int → Int} {P : Int} (c : Countdown p d P)
include c

theorem firstFrom : ∀ (n : Nat) (s : Int), d s < n → firstFrom p s n = some (s + d s) := by
  intro n
  induction n with
  | zero => intro s h; have := c.nonneg s; omega
  | succ n ih =>
    intro s h
    simp only [SeriesSpec.firstFrom]
    by_cases h0 : d s = 0
    · rw [if_pos ((c.hit s).2 h0), h0, Int.add_zero]
    · rw [if_neg (mt (c.hit s).1 h0), ih (s + 1) (by rw [c.step s h0]; omega), c.step s h0]
      congr 1; omega

theorem isFirst_iff (s j : Int) : IsFirst p s j ↔ j = s + d s := by
  have hf := (firstFrom_spec p _ s _ (c.firstFrom ((d s).toNat + 1) s (by omega))).1
  exact ⟨fun hj => IsFirst_unique p s _ _ hj hf, fun e => e ▸ hf⟩

theorem isNth_hit : ∀ (n : Nat) (s j : Int), IsNth p s n j → d j = 0
  | 0, _, j, h => (c.hit j).1 h.2.1
  | _+1, _, j, ⟨_, _, h⟩ => (c.hit j).1 h.2.1

theorem isNth_iff : ∀ (n : Nat) (s j : Int), IsNth p s n j ↔ j = s + d s + P * n := by
  intro n
  induction n with
  | zero => intro s j; simp only [IsNth, c.isFirst_iff]; omega
  | succ n ih =>
    intro s j
    have e : P * ((n + 1 : Nat) : Int) = P * n + P := by rw [Int.natCast_succ, Int.mul_add, Int.mul_one]
    simp only [IsNth, c.isFirst_iff, e]
    constructor
    · rintro ⟨j', h1, h2⟩
      have := c.wrap j' (c.isNth_hit n s j' h1)
      rw [ih] at h1; omega
    · intro h
      refine ⟨_, (ih s _).2 rfl, ?_⟩
      have := c.wrap _ (c.isNth_hit n s _ ((ih s _).2 rfl)); omega

theorem nthFrom (h60 : ∀ s, d s < 60) : ∀ (n : Nat) (s : Int), nthFrom p s n = some (s + d s + P * n) := by
  intro n
  induction n with
  | zero => intro s; simp only [SeriesSpec.nthFrom, c.firstFrom 60 s (h60 s)]; congr 1; omega
  | succ n ih =>
    intro s
    have e : P * ((n + 1 : Nat) : Int) = P * n + P := by rw [Int.natCast_succ, Int.mul_add, Int.mul_one]
    have := c.wrap _ (c.isNth_hit n s _ ((c.isNth_iff n s _).2 rfl))
    simp only [SeriesSpec.nthFrom, ih, c.firstFrom 60 _ (h60 _), e]
    congr 1; omega

end Countdown

theorem stem_countdown (t : Int) (ht : 0 ≤ t ∧ t < 10) : Countdown (fun j => stemOf j == t) (fun s => (t - stemOf s) % 10) 10 := by
  constructor <;> intro s <;> simp only [beq_iff_eq, stemOf] <;> omega

theorem branch_countdown (t : Int) (ht : 0 ≤ t ∧ t < 12) : Countdown (fun j => branchOf j == t) (fun s => (t - branchOf s) % 12) 12 := by
  constructor <;> intro s <;> simp only [beq_iff_eq, branchOf] <;> omega

theorem nthFrom_geng (n : Nat) (s : Int) : nthFrom isGeng s n = some (s + (6 - stemOf s) % 10 + 10 * n) :=
  (stem_countdown 6 (by omega)).nthFrom (fun s => by omega) n s
theorem isNth_geng_iff (n : Nat) (s j : Int) : IsNth isGeng s n j ↔ j = s + (6 - stemOf s) % 10 + 10 * n :=
  (stem_countdown 6 (by omega)).isNth_iff n s j
theorem isFirst_bing_iff (s j : Int) : IsFirst isBing s j ↔ j = s + (2 - stemOf s) % 10 :=
  (stem_countdown 2 (by omega)).isFirst_iff s j
theorem isFirst_wei_iff (s j : Int) : IsFirst isWei s j ↔ j = s + (7 - branchOf s) % 12 :=
  (branch_countdown 7 (by omega)).isFirst_iff s j
theorem firstFrom_bing (s : Int) : firstFrom isBing s 60 = some (s + (2 - stemOf s) % 10) :=
  (stem_countdown 2 (by omega)).firstFrom 60 s (by omega)
theorem firstFrom_wei (s : Int) : firstFrom isWei s 60 = some (s + (7 - branchOf s) % 12) :=
  (branch_countdown 7 (by omega)).firstFrom 60 s (by omega)

theorem stemOfPillar_eq (j : Int) : stemOfPillar ((j + 49) % 60) = stemOf j := by
  unfold stemOfPillar stemOf; rw [Series.indexOf_eq_emod _ _ (by decide)]; omega

theorem branchOfPillar_eq (j : Int) : branchOfPillar ((j + 49) % 60) = branchOf j := by
  unfold branchOfPillar branchOf; rw [Series.indexOf_eq_emod _ _ (by decide)]; omega

theorem stepsTo_eq (a t n : Int) (hn : 0 < n) : stepsTo a t n = (t - a) % n := Series.indexOf_eq_emod _ n hn

theorem okJ_of (j : Int) (h1 : JFIRST ≤ j) (h2 : j ≤ JLAST) : okJ j = true := by
  unfold okJ; simp [h1, h2]

theorem nineAt_iff (w j k i : Int) (h : w ≤ j) :
    nineAt w j = some (k, i) ↔ 0 ≤ k ∧ k < 9 ∧ 0 ≤ i ∧ i < 9 ∧ j = w + 9 * k + i := by
  unfold nineAt
  split
  · simp only [Option.some.injEq, Prod.mk.injEq]; omega
  · simp only [reduceCtorEq, false_iff]; omega

/-- get_nine_day = the spec function from the right solstice: a = W(Y) day, b = W(Y+1) day -/
theorem nine_eq (E : Eph) (Y j a b : Int)
    (ha : termStart E (fromIndex Y 0) = some a) (hb : termStart E (fromIndex (Y + 1) 0) = some b)
    (h1 : a ≤ j) (hok : JFIRST ≤ a ∧ a ≤ b ∧ b + 81 ≤ JLAST) :
    nine E Y j = some (nineAt (if j < b then a else b) j) := by
  unfold nine
  simp only [hb]
  have key : ∀ s, s ≤ j → JFIRST ≤ s → s + 81 ≤ JLAST →
      (if (!okJ (s + 81)) = true then (none : Option (Option (Int × Int)))
       else if j < s ∨ ¬ (j < s + 81) then some none
       else some (some (Series.indexOf (Int.tdiv (j - s) 9) 9, Int.tmod (j - s) 9))) = some (nineAt s j) := by
    intro s hs h3 h4
    simp only [okJ_of (s + 81) (by omega) h4, Bool.not_true]
    unfold nineAt
    by_cases h81 : j - s < 81
    · have : ¬ (j < s ∨ ¬ (j < s + 81)) := by omega
      simp only [this, h81, if_true, if_false, Bool.false_eq_true, Series.indexOf_eq_emod _ 9 (by decide),
        Int.tdiv_eq_ediv_of_nonneg (show 0 ≤ j - s by omega), Int.tmod_eq_emod_of_nonneg (show 0 ≤ j - s by omega)]
      have : (j - s) / 9 % 9 = (j - s) / 9 := by omega
      rw [this]
    · have : (j < s ∨ ¬ (j < s + 81)) := by omega
      rw [if_neg (by decide), if_pos this, if_neg h81]
  by_cases hj : j < b
  · rw [if_pos hj, if_pos hj]
    simp only [ha]
    exact key a h1 hok.1 (by omega)
  · rw [if_neg hj, if_neg hj]
    exact key b (by omega) (by omega) hok.2.2

/-- the Dog days that begin on day a and have a middle period of `mid` days: the shape `dogAt` and `IsDogOf` share -/
def dogFrom (a mid j : Int) : Option (Int × Int) :=
  if j < a then none
  else if j < a + 10 then some (0, j - a)
  else if j < a + 10 + mid then some (1, j - (a + 10))
  else if j < a + 20 + mid then some (2, j - (a + 10 + mid))
  else none

theorem dogAt_eq (s l j : Int) :
    dogAt s l j = dogFrom (s + (6 - stemOf s) % 10 + 20) (if s + (6 - stemOf s) % 10 + 40 < l then 20 else 10) j := by
  unfold dogAt
  simp only [nthFrom_geng, Int.cast_ofNat_Int, Int.reduceMul]
  rfl

theorem dogFrom_none (a mid j : Int) (h : j < a ∨ a + 20 + mid ≤ j) (hm : 0 ≤ mid) : dogFrom a mid j = none := by
  unfold dogFrom
  repeat' split
  all_goals first | rfl | omega

theorem dogFrom_iff (a mid j k i : Int) (hm : 0 ≤ mid) : dogFrom a mid j = some (k, i) ↔
    0 ≤ i ∧ ((k = 0 ∧ i < 10 ∧ j = a + i) ∨ (k = 1 ∧ i < mid ∧ j = a + 10 + i) ∨ (k = 2 ∧ i < 10 ∧ j = a + 10 + mid + i)) := by
  unfold dogFrom
  repeat' split
  all_goals simp only [Option.some.injEq, Prod.mk.injEq, reduceCtorEq, false_iff]
  all_goals omega

/-- get_dog_day = the spec function of the year's summer-solstice day s0 and Start-of-Autumn day lq -/
theorem dog_eq (E : Eph) (Y j s0 lq : Int)
    (hs : termStart E (fromIndex Y 12) = some s0)
    (hp : pillarOf E s0 = some ((s0 + 49) % 60))
    (hl : termStart E (next (fromIndex Y 12) 3) = some lq)
    (hok : JFIRST ≤ s0 ∧ s0 + 70 ≤ JLAST) :
    dog E Y j = some (dogAt s0 lq j) := by
  rw [dogAt_eq]
  unfold dog
  simp only [hs, hp, hl, stemOfPillar_eq, stepsTo_eq _ _ 10 (by decide)]
  have hd : 0 ≤ (6 - stemOf s0) % 10 ∧ (6 - stemOf s0) % 10 < 10 := by omega
  generalize (6 - stemOf s0) % 10 = d at hd ⊢
  have ok : ∀ n, 0 ≤ n → n ≤ 30 → okJ (s0 + (d + 20) + n) = true := fun n _ _ => okJ_of _ (by omega) (by omega)
  have o0 := ok 0 (by omega) (by omega)
  rw [Int.add_zero] at o0
  simp only [o0, ok 10, ok 20, ok 30, Int.reduceLE, Bool.not_true, Bool.false_eq_true, if_false]
  -- the middle period has twenty days exactly when the code takes its `lq > start + 20` branch;
  -- each answer of the code is then checked against the three-block shape
  simp only [show lq > s0 + (d + 20) + 20 ↔ s0 + d + 40 < lq by omega]
  by_cases c : s0 + d + 40 < lq
  all_goals simp only [c, if_true, if_false]
  all_goals repeat' split
  all_goals first
    | exact congrArg some (dogFrom_none _ _ _ (by omega) (by omega)).symm
    | exact congrArg some ((dogFrom_iff _ _ _ _ _ (by omega)).2 (by omega)).symm

theorem dogAt_window (s l j : Int) (x : Int × Int) (h : dogAt s l j = some x) : s + 20 ≤ j ∧ j < s + 69 :=
  Classical.byContradiction fun c => by
    rw [dogAt_eq, dogFrom_none _ _ _ (by split <;> omega) (by split <;> omega)] at h; cases h

theorem dogAt_iff (s l j k i : Int) : dogAt s l j = some (k, i) ↔ IsDogOf s l j k i := by
  unfold IsDogOf
  simp only [dogAt_eq, dogFrom_iff _ _ _ _ _ (show (0 : Int) ≤ if s + (6 - stemOf s) % 10 + 40 < l then 20 else 10 by split <;> omega),
    isNth_geng_iff, Int.cast_ofNat_Int, Int.reduceMul]
  constructor
  · intro h; exact ⟨_, _, rfl, rfl, by omega⟩
  · rintro ⟨g3, g5, rfl, rfl, h⟩; omega

/-- get_plum_rain_day = the spec function of the year's Grain-in-Ear day g0 and Slight-Heat day h0 -/
theorem plum_eq (E : Eph) (Y j g0 h0 : Int)
    (hg : termStart E (fromIndex Y 11) = some g0) (hpg : pillarOf E g0 = some ((g0 + 49) % 60))
    (hh : termStart E (next (fromIndex Y 11) 2) = some h0) (hph : pillarOf E h0 = some ((h0 + 49) % 60))
    (hok : JFIRST ≤ g0 ∧ g0 + 10 ≤ JLAST ∧ JFIRST ≤ h0 ∧ h0 + 12 ≤ JLAST) :
    plum E Y j = some (plumAt g0 h0 j) := by
  unfold plum plumAt
  simp only [hg, hpg, hh, hph, stemOfPillar_eq, branchOfPillar_eq, stepsTo_eq _ _ 10 (by decide), stepsTo_eq _ _ 12 (by decide),
    firstFrom_bing, firstFrom_wei]
  have hd : 0 ≤ (2 - stemOf g0) % 10 ∧ (2 - stemOf g0) % 10 < 10 := by omega
  have he : 0 ≤ (7 - branchOf h0) % 12 ∧ (7 - branchOf h0) % 12 < 12 := by omega
  generalize (2 - stemOf g0) % 10 = d at hd ⊢
  generalize (7 - branchOf h0) % 12 = e at he ⊢
  simp only [okJ_of (g0 + d) (by omega) (by omega), okJ_of (h0 + e) (by omega) (by omega), Bool.not_true, Bool.false_eq_true, if_false]
  by_cases c1 : j < g0 + d ∨ j > h0 + e
  · rw [if_pos c1, if_pos (show j < g0 + d ∨ h0 + e < j from c1)]
  · rw [if_neg c1, if_neg (show ¬ (j < g0 + d ∨ h0 + e < j) from c1)]
    split <;> rfl

theorem plumAt_window (m h j : Int) (x : Int × Int) (hx : plumAt m h j = some x) : m ≤ j ∧ j ≤ h + 11 :=
  Classical.byContradiction fun c => by
    unfold plumAt at hx
    simp only [firstFrom_bing, firstFrom_wei] at hx
    rw [if_pos (by omega)] at hx; cases hx

theorem plumAt_iff (m h j k i : Int) (hmh : m + 9 ≤ h) : plumAt m h j = some (k, i) ↔ IsPlumOf m h j k i := by
  unfold plumAt IsPlumOf
  simp only [firstFrom_bing, firstFrom_wei, isFirst_bing_iff, isFirst_wei_iff]
  have hd : 0 ≤ (2 - stemOf m) % 10 ∧ (2 - stemOf m) % 10 < 10 := by omega
  have he : 0 ≤ (7 - branchOf h) % 12 ∧ (7 - branchOf h) % 12 < 12 := by omega
  generalize (2 - stemOf m) % 10 = d at hd ⊢
  generalize (7 - branchOf h) % 12 = e at he ⊢
  constructor
  · intro hh
    refine ⟨_, _, rfl, rfl, ?_⟩
    repeat' split at hh
    all_goals simp only [Option.some.injEq, Prod.mk.injEq, reduceCtorEq] at hh
    all_goals omega
  · rintro ⟨a, b, rfl, rfl, hc⟩
    repeat' split
    all_goals first | omega | (simp only [Option.some.injEq, Prod.mk.injEq]; omega)

theorem pheno_eq (E : Eph) (Y M D : Int) (g : Nat) (k : Int) (h : ofDay E Y M D = some (g, k)) (hk : 0 ≤ k) :
    pheno E Y M D = some (pentadAt (g % 24) k) := by
  unfold pheno pentadAt
  simp only [h, Int.tdiv_eq_ediv_of_nonneg hk]
  have hq : (if k / 5 > 2 then 2 else k / 5) = (if k / 5 < 2 then k / 5 else 2) := by split <;> split <;> omega
  have hq2 : 0 ≤ (if k / 5 < 2 then k / 5 else 2) ∧ (if k / 5 < 2 then k / 5 else 2) ≤ 2 := by split <;> omega
  rw [hq]
  generalize (if k / 5 < 2 then k / 5 else 2) = q at hq2 ⊢
  have hr : (0 : Int) ≤ ((g % 24 : Nat) : Int) ∧ ((g % 24 : Nat) : Int) < 24 := by omega
  generalize ((g % 24 : Nat) : Int) = r at hr ⊢
  rw [Series.indexOf_eq_emod _ 72 (by decide), Series.indexOf_eq_emod _ 3 (by decide), Int.tmod_eq_emod_of_nonneg (by omega)]
  congr 2
  · omega
  · congr 1 <;> omega

theorem pentadAt_iff (r : Nat) (n p q d : Int) (hn : 0 ≤ n) : pentadAt r n = (p, q, d) ↔ InPentad r n p q d := by
  unfold pentadAt InPentad
  simp only [Prod.mk.injEq]
  split <;> omega

/-- the six bytes of the month whose Jie has index r -/
def hideSlice (r : Nat) : List Nat := (hideData.drop ((r - 1) * 3)).take 6

/-- DECODING THE PACKED STRING, by evaluation: the loop over the six characters of each of the twelve months (after
the repair of D21), for each day index below 40, against the walk of the classical allotment table -/
theorem hideLoop_table : ∀ k : Nat, k < 12 → ∀ n : Nat, n < 40 →
    hideLoop (hideSlice (2 * k + 1)) n 3 0 0 0 = commandAt (allotment (2 * k + 1)) 0 n := by decide

/-- beyond 40 the loop of a two-stem month falls through and the code panics; a month never has more than 32 days -/
theorem hideLoop_eq (r : Nat) (hr : r % 2 = 1 ∧ r < 24) (n : Int) (hn : 0 ≤ n) (hn2 : n < 40) :
    hideLoop (hideSlice r) n 3 0 0 0 = commandAt (allotment r) 0 n := by
  have := hideLoop_table (r / 2) (by omega) n.toNat (by omega)
  rwa [Int.toNat_of_nonneg hn, show 2 * (r / 2) + 1 = r by omega] at this

theorem commandAt_last (s c pos n : Int) : commandAt [(s, c)] pos n = some (s, 2, n) := rfl

theorem commandAt_cons (s c : Int) (rest : List (Int × Int)) (hr : rest ≠ []) (pos n : Int) :
    commandAt ((s, c) :: rest) pos n = if n < c then some (s, pos, n) else commandAt rest (pos + 1) (n - c) := by
  cases rest with
  | nil => exact absurd rfl hr
  | cons e r => rfl

theorem commandAt_some : ∀ (L : List (Int × Int)) (pos n : Int), L ≠ [] → ∃ r, commandAt L pos n = some r
  | [], _, _, h => absurd rfl h
  | [_], _, _, _ => ⟨_, rfl⟩
  | (s, c) :: e :: rest, pos, n, _ => by
    rw [commandAt_cons _ _ _ (List.cons_ne_nil _ _)]
    split
    · exact ⟨_, rfl⟩
    · exact commandAt_some (e :: rest) _ _ (List.cons_ne_nil _ _)

theorem total_nonneg : ∀ (L : List (Int × Int)), (∀ e ∈ L, 0 < e.2) → 0 ≤ total L := by
  intro L
  induction L with
  | nil => intro _; simp [total]
  | cons e r ih =>
    intro h
    have h1 := h e (by simp)
    have h2 := ih (fun x hx => h x (by simp [hx]))
    simp only [total]; omega

theorem commandAt_commands : ∀ (L : List (Int × Int)) (pos n s ty d : Int), 0 ≤ n →
    commandAt L pos n = some (s, ty, d) →
    ∃ pre c post, L = pre ++ (s, c) :: post ∧ d = n - total pre ∧ 0 ≤ d ∧
      ((post = [] ∧ ty = 2) ∨ (post ≠ [] ∧ ty = pos + pre.length ∧ d < c))
  | [], _, _, _, _, _, _, h => by cases h
  | [(s0, c0)], pos, n, s, ty, d, hn, h => by
    obtain ⟨rfl, rfl, rfl⟩ : s0 = s ∧ 2 = ty ∧ n = d := by simpa [commandAt_last] using h
    exact ⟨[], c0, [], rfl, by simp [total], hn, Or.inl ⟨rfl, rfl⟩⟩
  | (s0, c0) :: e :: rest, pos, n, s, ty, d, hn, h => by
    rw [commandAt_cons _ _ _ (List.cons_ne_nil _ _)] at h
    split at h
    · obtain ⟨rfl, rfl, rfl⟩ : s0 = s ∧ pos = ty ∧ n = d := by simpa using h
      exact ⟨[], c0, e :: rest, rfl, by simp [total], hn, Or.inr ⟨List.cons_ne_nil _ _, by simp, by assumption⟩⟩
    · obtain ⟨pre, c, post, e1, e2, e3, e4⟩ := commandAt_commands (e :: rest) (pos + 1) (n - c0) s ty d (by omega) h
      refine ⟨(s0, c0) :: pre, c, post, by rw [e1]; rfl, by simp only [total]; omega, e3, ?_⟩
      rcases e4 with e4 | ⟨p1, p2, p3⟩
      · exact Or.inl e4
      · exact Or.inr ⟨p1, by simp only [List.length_cons]; omega, p3⟩

theorem commands_commandAt : ∀ (pre : List (Int × Int)) (c : Int) (post : List (Int × Int)) (pos n s ty d : Int),
    (∀ e ∈ pre, 0 < e.2) → d = n - total pre → 0 ≤ d →
    ((post = [] ∧ ty = 2) ∨ (post ≠ [] ∧ ty = pos + pre.length ∧ d < c)) →
    commandAt (pre ++ (s, c) :: post) pos n = some (s, ty, d)
  | [], c, post, pos, n, s, ty, d, _, e1, _, e3 => by
    simp only [total, Int.sub_zero] at e1
    subst e1
    rcases e3 with ⟨rfl, rfl⟩ | ⟨p1, p2, p3⟩
    · rfl
    · rw [List.nil_append, commandAt_cons _ _ _ p1, if_pos p3, p2]; simp
  | (s0, c0) :: pre, c, post, pos, n, s, ty, d, hp, e1, e2, e3 => by
    have hpos : 0 < c0 := hp (s0, c0) (by simp)
    have hp' : ∀ e ∈ pre, 0 < e.2 := fun x hx => hp x (by simp [hx])
    have ht := total_nonneg pre hp'
    simp only [total] at e1
    rw [List.cons_append, commandAt_cons _ _ _ (by simp), if_neg (by omega)]
    refine commands_commandAt pre c post (pos + 1) (n - c0) s ty d hp' (by omega) e2 ?_
    rcases e3 with e3 | ⟨p1, p2, p3⟩
    · exact Or.inl e3
    · exact Or.inr ⟨p1, by simp only [List.length_cons] at p2; omega, p3⟩

theorem commandAt_iff (L : List (Int × Int)) (hL : ∀ e ∈ L, 0 < e.2) (n : Int) (hn : 0 ≤ n) (s ty d : Int) :
    commandAt L 0 n = some (s, ty, d) ↔ Commands L n s ty d := by
  constructor
  · intro hc
    obtain ⟨pre, c, post, q1, q2, q3, q4⟩ := commandAt_commands _ 0 _ s ty d hn hc
    exact ⟨pre, c, post, q1, q2, q3, by simpa using q4⟩
  · rintro ⟨pre, c, post, rfl, q2, q3, q4⟩
    exact commands_commandAt pre c post 0 _ s ty d (fun e he => hL e (by simp [he])) q2 q3 (by simpa using q4)

theorem allotment_wf (r : Nat) (hr : r % 2 = 1 ∧ r < 24) :
    total (allotment r) = 30 ∧ (∀ e ∈ allotment r, 0 < e.2 ∧ 0 ≤ e.1 ∧ e.1 ≤ 9) ∧
      2 ≤ (allotment r).length ∧ (allotment r).length ≤ 3 := by
  have hc : r = 1 ∨ r = 3 ∨ r = 5 ∨ r = 7 ∨ r = 9 ∨ r = 11 ∨ r = 13 ∨ r = 15 ∨ r = 17 ∨ r = 19 ∨ r = 21 ∨ r = 23 := by omega
  rcases hc with h | h | h | h | h | h | h | h | h | h | h | h <;> subst h <;> decide

theorem command_range (r : Nat) (hr : r % 2 = 1 ∧ r < 24) (n : Int) (hn : 0 ≤ n) (s ty di : Int)
    (h : commandAt (allotment r) 0 n = some (s, ty, di)) : 0 ≤ s ∧ s < 10 ∧ 0 ≤ ty ∧ ty ≤ 2 ∧ 0 ≤ di ∧ di ≤ n := by
  obtain ⟨_, w2, _, w4⟩ := allotment_wf r hr
  obtain ⟨pre, c, post, e, rfl, d0, hty⟩ := commandAt_commands _ 0 n s ty _ hn h
  have hs := w2 (s, c) (by rw [e]; simp)
  have hp := total_nonneg pre fun x hx => (w2 x (by rw [e]; simp [hx])).1
  have hl : pre.length + post.length + 1 = (allotment r).length := by rw [e]; simp; omega
  refine ⟨hs.2.1, by omega, ?_, ?_, d0, by omega⟩ <;> rcases hty with ⟨_, rfl⟩ | ⟨hne, rfl, _⟩ <;> omega

theorem termStart_eq (E : Eph) (t : Int × Int) (g : Nat) (hg : gidx t = (g : Int)) (hz : E.termDay g ≠ 0) :
    termStart E t = some (E.termDay g) := by
  unfold termStart
  rw [hg, if_neg (by omega), Int.toNat_natCast, if_neg hz]

/-- the Jie on or before term g as the code of the commanding stem finds it is the term with global index `jieOf g` -/
theorem jie_term (g : Nat) (hg : 2 ≤ g) (t' : Int × Int)
    (et : (if isQi (ofGidx g) then Term.next (ofGidx g) (-1) else ofGidx g) = t') :
    gidx t' = (jieOf g : Nat) ∧ t'.2 = ((jieOf g % 24 : Nat) : Int) := by
  obtain ⟨h1, h2, h3⟩ := jie_before g (by omega) _ (ofGidx_parity g).2 t' et
  unfold jieOf
  refine ⟨h1, ?_⟩
  unfold gidx at h1
  omega

/-- get_hide_heaven_stem_day (repaired) = the classical table walked from the Jie on or before the day's term -/
theorem hide_eq (E : Eph) (Y M D : Int) (g : Nat) (k : Int) (h : ofDay E Y M D = some (g, k)) (hg : 2 ≤ g)
    (hq : E.termDay (jieOf g) ≠ 0)
    (hn : 0 ≤ jdn Y M D - E.termDay (jieOf g)) (hn2 : jdn Y M D - E.termDay (jieOf g) < 40) :
    hide E Y M D = commandAt (allotment (jieOf g % 24)) 0 (jdn Y M D - E.termDay (jieOf g)) := by
  have hrr : jieOf g % 24 % 2 = 1 ∧ jieOf g % 24 < 24 := by unfold jieOf; split <;> omega
  unfold hide
  simp only [h]
  generalize et : (if isQi (ofGidx g) then Term.next (ofGidx g) (-1) else ofGidx g) = t'
  obtain ⟨eg, e2'⟩ := jie_term g hg t' et
  have hl : hideData.length = 72 := rfl
  rw [termStart_eq E t' _ eg hq]
  simp only [if_neg (show ¬ jdn Y M D - E.termDay (jieOf g) < 0 by omega), if_neg (show ¬ t'.2 - 1 < 0 by omega),
    show ((t'.2 - 1) * 3).toNat = (jieOf g % 24 - 1) * 3 by omega,
    if_neg (show ¬ (jieOf g % 24 - 1) * 3 + 6 > hideData.length by rw [hl]; omega)]
  have hle := hideLoop_eq (jieOf g % 24) hrr _ hn hn2
  unfold hideSlice at hle
  rw [hle]
  -- the stem the table names is already one of the ten
  cases hc : commandAt (allotment (jieOf g % 24)) 0 (jdn Y M D - E.termDay (jieOf g)) with
  | none => rfl
  | some r =>
    obtain ⟨r1, r2, _⟩ := command_range _ hrr _ hn r.1 r.2.1 r.2.2 hc
    dsimp only
    rw [Series.indexOf_eq_emod _ 10 (by decide), Int.emod_eq_of_lt r1 r2]

/-- THE YEAR FRAME: a civil year lies between the winter solstice that opens its term-year (at least 9 days before
January 1) and 23 days after the one that closes it; both solstice days are days the library represents -/
theorem year_frame {E : Eph} (tf : TermFacts E) (Y M D : Int) (hv : Civil.valid Y M D = true) (h1 : 2 ≤ Y) (h2 : Y ≤ 9998) :
    E.termDay (24 * (Y - 1)).toNat + 9 ≤ jdn Y M D ∧ jdn Y M D ≤ E.termDay (24 * Y).toNat + 23 ∧
    JFIRST + 331 ≤ E.termDay (24 * (Y - 1)).toNat ∧ E.termDay (24 * Y).toNat + 373 ≤ JLAST := by
  obtain ⟨y1, y2⟩ := jdn_year_bounds Y M D hv
  have dz := tf.dongzhiI Y h1 (by omega)
  have dz' := tf.dongzhiI (Y + 1) (by omega) (by omega)
  have lc := (tf.lichunI Y (by omega) (by omega)).1
  have lc' := (tf.lichunI (Y + 1) (by omega) (by omega)).1
  have s := (term_span tf (24 * (Y - 1)).toNat (24 * (Y - 1) + 3).toNat (by omega) (by omega) (by omega)).2
  have s' := (term_span tf (24 * Y).toNat (24 * (Y + 1 - 1) + 3).toNat (by omega) (by omega) (by omega)).2
  rw [show 24 * (Y + 1 - 1) = 24 * Y by omega] at dz'
  have j2 := jan1_strict 1 Y (by omega)
  have := (jan1_range 1 (by omega) (by omega)).1
  have := (jan1_range (Y + 1) (by omega) (by omega)).2
  unfold JFIRST JLAST
  unfold jdnFirst jdnLast at *
  omega

/-- the terms 3..23 of term-year Y (Lichun to Daxue) fall inside civil year Y, at least 14 days apart -/
theorem term_in_year {E : Eph} (tf : TermFacts E) (Y : Int) (h1 : 1 ≤ Y) (h2 : Y ≤ 9998) (i : Int) (hi : 3 ≤ i ∧ i ≤ 23) :
    jdn Y 1 1 + 24 + 14 * (i - 3) ≤ E.termDay (24 * (Y - 1) + i).toNat ∧
    E.termDay (24 * (Y - 1) + i).toNat + 9 + 14 * (24 - i) ≤ jdn (Y + 1) 1 1 := by
  have lc := (tf.lichunI Y h1 (by omega)).1
  have dz := tf.dongzhiI (Y + 1) (by omega) (by omega)
  rw [show 24 * (Y + 1 - 1) = 24 * Y by omega] at dz
  have s := (term_span tf (24 * (Y - 1) + 3).toNat (24 * (Y - 1) + i).toNat (by omega) (by omega) (by omega)).1
  have s' := (term_span tf (24 * (Y - 1) + i).toNat (24 * Y).toNat (by omega) (by omega) (by omega)).1
  omega

theorem fromIndex_eq (Y i : Int) (hY : 0 ≤ Y) (hi : 0 ≤ i ∧ i < 24) : fromIndex Y i = (Y, i) := by
  unfold fromIndex
  rw [C06_indexOf, Int.tdiv_eq_ediv_of_nonneg (by omega)]
  apply Prod.ext <;> (dsimp only; omega)

theorem start_next {E : Eph} (tf : TermFacts E) (Y i n : Int) (hY : 1 ≤ Y) (hi : 0 ≤ i ∧ i < 24) (h1 : 1 ≤ 24 * (Y - 1) + i + n)
    (h2 : 24 * (Y - 1) + i + n ≤ 239977) :
    termStart E (Term.next (fromIndex Y i) n) = some (E.termDay (24 * (Y - 1) + i + n).toNat) :=
  termStart_eq E _ _ (by rw [fromIndex_eq Y i (by omega) hi, (C06_next_pos Y i n hi.1 hi.2 (by omega)).1]; unfold gidx; omega)
    ((tf.ne_zero_iff _).2 ⟨by omega, by omega⟩)

theorem start_fromIndex {E : Eph} (tf : TermFacts E) (Y i : Int) (hi : 0 ≤ i ∧ i < 24) (h1 : 1 ≤ 24 * (Y - 1) + i) (h2 : 24 * (Y - 1) + i ≤ 239977) :
    termStart E (fromIndex Y i) = some (E.termDay (24 * (Y - 1) + i).toNat) :=
  termStart_eq E _ _ (by rw [fromIndex_eq Y i (by omega) hi]; unfold gidx; omega) ((tf.ne_zero_iff _).2 ⟨by omega, by omega⟩)

/-- consecutive terms of one kind are at least 336 days apart: a term of kind r that starts on or before day j, and less
than 336 days before it, is the latest of its kind -/
theorem latestKind_unique {E : Eph} (tf : TermFacts E) (r : Nat) (j : Int) (g g' : Nat) (hg : IsLatestKind E.termDay r j g) (b2 : g + 24 ≤ 239977)
    (c1 : 1 ≤ g') (c2 : g' ≤ 239977) (c3 : g' % 24 = r) (c4 : E.termDay g' ≤ j) (c5 : j < E.termDay g' + 336) : g' = g := by
  obtain ⟨a1, a2, a3⟩ := hg
  rcases Nat.lt_trichotomy g' g with c | c | c
  · have := (term_span tf g' g c1 (by omega) (by omega)).1
    omega
  · exact c
  · have := (term_span tf (g + 24) g' (by omega) (by omega) c2).1
    omega

/-- A YEARLY SERIES. `S g` is what a series counted from term g says about day j; the series is anchored at the term of
kind r (2..23) and is silent before its anchor and from the winter solstice that closes its term-year on (14·(24 − r)
days are a lower bound for that distance). Then for a day j of civil year Y (`year_frame`) the value counted from year
Y's anchor — which is what the code computes — is the value counted from the latest anchor on or before j. -/
theorem yearly_series {E : Eph} (tf : TermFacts E) {α : Type} (S : Nat → Option α) (j : Int) (r : Nat) (hr : 2 ≤ r ∧ r < 24)
    (hS : ∀ g x, 1 ≤ g → g + 24 ≤ 239977 → S g = some x → E.termDay g ≤ j ∧ j < E.termDay g + 14 * (24 - (r : Int)))
    (Y : Int) (h1 : 2 ≤ Y) (h2 : Y ≤ 9998) (hj : E.termDay (24 * (Y - 1)).toNat ≤ j ∧ j ≤ E.termDay (24 * Y).toNat + 23) :
    ∃ g : Nat, 1 ≤ g ∧ g + 24 ≤ 239977 ∧ IsLatestKind E.termDay r j g ∧ S (24 * (Y - 1) + r).toNat = S g := by
  obtain ⟨n, rfl⟩ : ∃ n : Nat, Y = ((n + 2 : Nat) : Int) := ⟨(Y - 2).toNat, by omega⟩
  have e0 : (24 * (((n + 2 : Nat) : Int) - 1)).toNat = 24 * (n + 1) := by omega
  have e1 : (24 * ((n + 2 : Nat) : Int)).toNat = 24 * (n + 1) + 24 := by omega
  have e2 : (24 * (((n + 2 : Nat) : Int) - 1) + (r : Int)).toNat = 24 * (n + 1) + r := by omega
  rw [e0, e1] at hj
  rw [e2]
  by_cases c : E.termDay (24 * (n + 1) + r) ≤ j
  · have := (term_span tf (24 * (n + 1) + 24) (24 * (n + 1) + r + 24) (by omega) (by omega) (by omega)).1
    exact ⟨_, by omega, by omega, ⟨by omega, c, by omega⟩, rfl⟩
  · -- before this year's anchor: silent, and last year's series ended with the solstice that opens the year
    have m := (term_span tf (24 * n + r) (24 * (n + 1)) (by omega) (by omega) (by omega)).1
    have n1 : S (24 * (n + 1) + r) = none := Option.eq_none_iff_forall_ne_some.2 fun x h => c (hS _ x (by omega) (by omega) h).1
    have n2 : S (24 * n + r) = none := Option.eq_none_iff_forall_ne_some.2 fun x h => by
      have := (hS _ x (by omega) (by omega) h).2; omega
    refine ⟨24 * n + r, by omega, by omega, ⟨by omega, by omega, ?_⟩, by rw [n1, n2]⟩
    rw [show 24 * n + r + 24 = 24 * (n + 1) + r by omega]; omega

/-- the lunar-route pillar of a civil day of year Y inside a tiling interval: never refused, (day number + 49) mod 60 -/
theorem pillarOf_tiles (E : Eph) (hl : ∀ y, E.leap y ≤ 12) (nf : NewYearFacts E) (hF1 : 1721424 ≤ E.mFirst 1 0)
    (a b : Int) (ha0 : 0 ≤ a) (hb9 : b + 1 ≤ 9999) (ht : TilesOn E a b) (Y : Int) (hY1 : 1 ≤ Y) (hYa : a ≤ Y) (hYb : Y ≤ b)
    (j : Int) (hj : jdn Y 1 1 ≤ j ∧ j < jdn (Y + 1) 1 1) (hlo : first E ⟨a, 0⟩ ≤ j) (hhi : j < first E ⟨b + 1, 0⟩) :
    pillarOf E j = some ((j + 49) % 60) := by
  obtain ⟨v, e, ya, yb⟩ := jdn_year_range j Y Y hY1 (Int.le_refl _) (by omega) hj.1 hj.2
  have ej : jdn (ofJdn j).1 (ofJdn j).2.1 (ofJdn j).2.2 = j := e
  obtain ⟨⟨x, k⟩, hr⟩ := ofSolar_total E hl nf hF1 a b ha0 hb9 ht _ _ _ v (by omega) (by omega) (by rw [ej]; exact hlo) (by rw [ej]; exact hhi)
  have := C07_pillar E hl a b ht _ _ _ (by omega) (by omega) (by rw [ej]; exact hlo) (by rw [ej]; exact hhi) _ hr
  unfold pillarOf
  rw [hr, ← ej]; exact this

/-- …in particular of the day of a term i = 6..23 (Chunfen to Daxue) of ANY civil year Y of the interval, its first and
last included: such a term day follows the lunar new year of Y (at most 59 days after January 1) and precedes that of
Y + 1 (at most 5 days before January 1) -/
theorem term_pillar (E : Eph) (hl : ∀ y, E.leap y ≤ 12) (tf : TermFacts E) (nf : NewYearFacts E) (hF1 : 1721424 ≤ E.mFirst 1 0)
    (a b : Int) (ha0 : 0 ≤ a) (hb : b ≤ 9998) (ht : TilesOn E a b) (Y : Int) (hY1 : 1 ≤ Y) (hYa : a ≤ Y) (hYb : Y ≤ b)
    (i : Int) (hi : 6 ≤ i ∧ i ≤ 23) :
    pillarOf E (E.termDay (24 * (Y - 1) + i).toNat) = some ((E.termDay (24 * (Y - 1) + i).toNat + 49) % 60) := by
  obtain ⟨y1, y2⟩ := term_in_year tf Y hY1 (by omega) i (by omega)
  have m := jdn_jan1_le (Y + 1) (b + 1) (by omega)
  obtain ⟨lo, hi⟩ := span_of_day nf a b ha0 (by omega) (by omega) (E.termDay (24 * (Y - 1) + i).toNat) Y hY1 hYa
    (by split <;> omega) (by omega)
  exact pillarOf_tiles E hl nf hF1 a b ha0 (by omega) ht Y hY1 hYa hYb _ ⟨by omega, by omega⟩ lo hi

theorem eq_none_iff_of_some_iff {r : Option (Int × Int)} {P : Nat → Int → Int → Prop}
    (h : ∀ k i, r = some (k, i) ↔ ∃ g, P g k i) : r = none ↔ ¬ ∃ g k i, P g k i := by
  rw [Option.eq_none_iff_forall_ne_some]
  constructor
  · rintro hn ⟨g, k, i, hp⟩; exact hn _ ((h k i).2 ⟨g, hp⟩)
  · rintro hn ⟨k, i⟩ e; obtain ⟨g, hp⟩ := (h k i).1 e; exact hn ⟨g, k, i, hp⟩

/-- get_nine_day on a civil date of 2..9998: never refused; it returns the spec function of the latest winter solstice g
on or before the day, and that names day i of Nine k exactly when the day is 9·k + i days after SOME winter solstice -/
theorem nine_spec (E : Eph) (tf : TermFacts E) (Y M D : Int) (hv : Civil.valid Y M D = true) (h1 : 2 ≤ Y) (h2 : Y ≤ 9998) :
    ∃ g : Nat, 1 ≤ g ∧ g + 24 ≤ 239977 ∧ IsLatestKind E.termDay 0 (jdn Y M D) g ∧
      nine E Y (jdn Y M D) = some (nineAt (E.termDay g) (jdn Y M D)) ∧
      ∀ k i : Int, nineAt (E.termDay g) (jdn Y M D) = some (k, i) ↔ ∃ g : Nat, 1 ≤ g ∧ g ≤ 239977 ∧ IsNineOf E.termDay g (jdn Y M D) k i := by
  obtain ⟨f1, f2, f3, f4⟩ := year_frame tf Y M D hv h1 h2
  have ha := start_fromIndex tf Y 0 (by omega) (by omega) (by omega)
  have hb := start_fromIndex tf (Y + 1) 0 (by omega) (by omega) (by omega)
  rw [show 24 * (Y - 1) + 0 = 24 * (Y - 1) by omega] at ha
  rw [show 24 * (Y + 1 - 1) + 0 = 24 * Y by omega] at hb
  have m := (term_span tf (24 * (Y - 1)).toNat (24 * Y).toNat (by omega) (by omega) (by omega)).1
  have m' := (term_span tf (24 * Y).toNat ((24 * Y).toNat + 24) (by omega) (by omega) (by omega)).1
  have he := nine_eq E Y (jdn Y M D) _ _ ha hb (by omega) (by unfold JFIRST JLAST at *; omega)
  have e24 : (24 * (Y - 1)).toNat + 24 = (24 * Y).toNat := by omega
  -- the latest winter solstice, whichever of the two the code picked
  have key : ∃ g : Nat, 1 ≤ g ∧ g + 24 ≤ 239977 ∧ IsLatestKind E.termDay 0 (jdn Y M D) g ∧
      nine E Y (jdn Y M D) = some (nineAt (E.termDay g) (jdn Y M D)) := by
    split at he
    · exact ⟨_, by omega, by omega, ⟨by omega, by omega, by rw [e24]; assumption⟩, he⟩
    · exact ⟨_, by omega, by omega, ⟨by omega, by omega, by omega⟩, he⟩
  obtain ⟨g, b1, b2, hk, e⟩ := key
  refine ⟨g, b1, b2, hk, e, fun k i => ⟨fun h => ⟨g, b1, by omega, hk.1, (nineAt_iff _ _ k i hk.2.1).1 h⟩, ?_⟩⟩
  rintro ⟨g', c1, c2, c3, r⟩
  obtain rfl := latestKind_unique tf 0 _ g g' hk b2 c1 c2 c3 (by omega) (by omega)
  exact (nineAt_iff _ _ k i hk.2.1).2 r

/-- get_dog_day on a civil date of 2..9998, once the lunar route answers on the year's summer-solstice day: it returns
the spec function of the latest summer solstice g on or before the day, and that names day i of period k exactly when
the day is that day of the Dog days counted from SOME year's summer solstice -/
theorem dog_spec (E : Eph) (tf : TermFacts E) (Y M D : Int) (hv : Civil.valid Y M D = true) (h1 : 2 ≤ Y) (h2 : Y ≤ 9998)
    (hp : pillarOf E (E.termDay (24 * (Y - 1) + 12).toNat) = some ((E.termDay (24 * (Y - 1) + 12).toNat + 49) % 60)) :
    ∃ g : Nat, 1 ≤ g ∧ g + 24 ≤ 239977 ∧ IsLatestKind E.termDay 12 (jdn Y M D) g ∧
      dog E Y (jdn Y M D) = some (dogAt (E.termDay g) (E.termDay (g + 3)) (jdn Y M D)) ∧
      ∀ k i : Int, dogAt (E.termDay g) (E.termDay (g + 3)) (jdn Y M D) = some (k, i) ↔
        ∃ g : Nat, 1 ≤ g ∧ g + 3 ≤ 239977 ∧ g % 24 = 12 ∧ IsDogOf (E.termDay g) (E.termDay (g + 3)) (jdn Y M D) k i := by
  obtain ⟨f1, f2, f3, f4⟩ := year_frame tf Y M D hv h1 h2
  have hs := start_fromIndex tf Y 12 (by omega) (by omega) (by omega)
  have hl := start_next tf Y 12 3 (by omega) (by omega) (by omega) (by omega)
  have m1 := (term_span tf (24 * (Y - 1)).toNat (24 * (Y - 1) + 12).toNat (by omega) (by omega) (by omega)).1
  have m2 := (term_span tf (24 * (Y - 1) + 12).toNat (24 * Y).toNat (by omega) (by omega) (by omega)).1
  have he := dog_eq E Y (jdn Y M D) _ _ hs hp hl (by unfold JFIRST JLAST at *; omega)
  obtain ⟨g, b1, b2, hk, e⟩ := yearly_series tf (fun g => dogAt (E.termDay g) (E.termDay (g + 3)) (jdn Y M D)) (jdn Y M D) 12 (by omega)
    (fun g x _ _ h => by have := dogAt_window _ _ _ x h; omega) Y h1 h2 ⟨by omega, f2⟩
  rw [show (24 * (Y - 1) + 12 + 3).toNat = (24 * (Y - 1) + 12).toNat + 3 by omega] at he
  refine ⟨g, b1, b2, hk, he.trans (congrArg some e), fun k i => ⟨fun h => ⟨g, b1, by omega, hk.1, (dogAt_iff _ _ _ _ _).1 h⟩, ?_⟩⟩
  rintro ⟨g', c1, c2, c3, hd⟩
  have hd' := (dogAt_iff _ _ _ _ _).2 hd
  have w := dogAt_window _ _ _ _ hd'
  obtain rfl := latestKind_unique tf 12 _ g g' hk b2 c1 (by omega) c3 (by omega) (by omega)
  exact hd'

/-- get_plum_rain_day on a civil date of 2..9998, once the lunar route answers on the year's Grain-in-Ear and
Slight-Heat days -/
theorem plum_spec (E : Eph) (tf : TermFacts E) (Y M D : Int) (hv : Civil.valid Y M D = true) (h1 : 2 ≤ Y) (h2 : Y ≤ 9998)
    (hpg : pillarOf E (E.termDay (24 * (Y - 1) + 11).toNat) = some ((E.termDay (24 * (Y - 1) + 11).toNat + 49) % 60))
    (hph : pillarOf E (E.termDay (24 * (Y - 1) + 13).toNat) = some ((E.termDay (24 * (Y - 1) + 13).toNat + 49) % 60)) :
    ∃ g : Nat, 1 ≤ g ∧ g + 24 ≤ 239977 ∧ IsLatestKind E.termDay 11 (jdn Y M D) g ∧
      plum E Y (jdn Y M D) = some (plumAt (E.termDay g) (E.termDay (g + 2)) (jdn Y M D)) ∧
      ∀ k i : Int, plumAt (E.termDay g) (E.termDay (g + 2)) (jdn Y M D) = some (k, i) ↔
        ∃ g : Nat, 1 ≤ g ∧ g + 2 ≤ 239977 ∧ g % 24 = 11 ∧ IsPlumOf (E.termDay g) (E.termDay (g + 2)) (jdn Y M D) k i := by
  obtain ⟨f1, f2, f3, f4⟩ := year_frame tf Y M D hv h1 h2
  have hg := start_fromIndex tf Y 11 (by omega) (by omega) (by omega)
  have hh := start_next tf Y 11 2 (by omega) (by omega) (by omega) (by omega)
  rw [show 24 * (Y - 1) + 11 + 2 = 24 * (Y - 1) + 13 by omega] at hh
  have m1 := (term_span tf (24 * (Y - 1)).toNat (24 * (Y - 1) + 11).toNat (by omega) (by omega) (by omega)).1
  have m2 := (term_span tf (24 * (Y - 1) + 13).toNat (24 * Y).toNat (by omega) (by omega) (by omega)).1
  have m3 := term_span tf (24 * (Y - 1) + 11).toNat (24 * (Y - 1) + 13).toNat (by omega) (by omega) (by omega)
  have he := plum_eq E Y (jdn Y M D) _ _ hg hpg hh hph (by unfold JFIRST JLAST at *; omega)
  obtain ⟨g, b1, b2, hk, e⟩ := yearly_series tf (fun g => plumAt (E.termDay g) (E.termDay (g + 2)) (jdn Y M D)) (jdn Y M D) 11 (by omega)
    (fun g x g1 g2 h => by have := plumAt_window _ _ _ x h; have := term_span tf g (g + 2) g1 (by omega) (by omega); omega) Y h1 h2 ⟨by omega, f2⟩
  rw [show (24 * (Y - 1) + 13).toNat = (24 * (Y - 1) + 11).toNat + 2 by omega] at he
  refine ⟨g, b1, b2, hk, he.trans (congrArg some e),
    fun k i => ⟨fun h => ⟨g, b1, by omega, hk.1, (plumAt_iff _ _ _ _ _ (by have := term_span tf g (g + 2) b1 (by omega) (by omega); omega)).1 h⟩, ?_⟩⟩
  rintro ⟨g', c1, c2, c3, hd⟩
  have sp := term_span tf g' (g' + 2) c1 (by omega) c2
  have hd' := (plumAt_iff _ _ _ _ _ (by omega)).2 hd
  have w := plumAt_window _ _ _ _ hd'
  obtain rfl := latestKind_unique tf 11 _ g g' hk b2 c1 (by omega) c3 (by omega) (by omega)
  exact hd'

/-- get_term_day (C06) on a civil date of 2..9998: it returns the latest term on or before the day, one of 2..239954 -/
theorem term_of_day (E : Eph) (tf : TermFacts E) (Y M D : Int) (hv : Civil.valid Y M D = true) (h1 : 2 ≤ Y) (h2 : Y ≤ 9998) :
    ∃ g k, ofDay E Y M D = some (g, k) ∧
      2 ≤ g ∧ g + 23 ≤ 239977 ∧ IsLatest E.termDay (jdn Y M D) g ∧ k = jdn Y M D - E.termDay g ∧ 0 ≤ k ∧ k ≤ 15 := by
  obtain ⟨g, k, h, g1, g2, a1, a2, _, e, k0, k15⟩ := ofDay_total_spec E tf Y M D hv h2 (first_term_le_date tf Y M D hv h1)
  obtain ⟨_, lo, hi, _⟩ := term_of_civil tf Y M D hv h2 g
    ((tf.ne_zero_iff g).2 ⟨g1, by omega⟩) a1 (Or.inr a2)
  exact ⟨g, k, h, by omega, by omega, ⟨a1, a2⟩, e, k0, k15⟩

/-- get_phenology_day on a civil date of 2..9998: the term look-up returns the latest term g on or before the day, the
answer is the spec function of g and of the days elapsed, and no other triple fits the day -/
theorem pheno_spec (E : Eph) (tf : TermFacts E) (Y M D : Int) (hv : Civil.valid Y M D = true) (h1 : 2 ≤ Y) (h2 : Y ≤ 9998) :
    ∃ g k, ofDay E Y M D = some (g, k) ∧ IsLatest E.termDay (jdn Y M D) g ∧ jdn Y M D - E.termDay g ≤ 15 ∧
      pheno E Y M D = some (pentadAt (g % 24) (jdn Y M D - E.termDay g)) ∧
      ∀ p q d : Int, pentadAt (g % 24) (jdn Y M D - E.termDay g) = (p, q, d) ↔ InPentad (g % 24) (jdn Y M D - E.termDay g) p q d := by
  obtain ⟨g, k, h, _, _, a, rfl, k0, k15⟩ := term_of_day E tf Y M D hv h1 h2
  exact ⟨g, _, h, a, k15, pheno_eq E Y M D g _ h k0, fun p q d => pentadAt_iff _ _ p q d k0⟩

/-- get_hide_heaven_stem_day (repaired) on a civil date of 2..9998: with q = `jieOf g` the latest Jie on or before the
day and n ≤ 31 the days elapsed since, the answer is the classical table of the month walked to n; the walk answers, and
what it answers is the one triple in command -/
theorem hide_spec (E : Eph) (tf : TermFacts E) (Y M D : Int) (hv : Civil.valid Y M D = true) (h1 : 2 ≤ Y) (h2 : Y ≤ 9998) :
    ∃ g k, ofDay E Y M D = some (g, k) ∧
      jieOf g % 2 = 1 ∧ E.termDay (jieOf g) ≤ jdn Y M D ∧ jdn Y M D < E.termDay (jieOf g + 2) ∧ jdn Y M D - E.termDay (jieOf g) ≤ 31 ∧
      hide E Y M D = commandAt (allotment (jieOf g % 24)) 0 (jdn Y M D - E.termDay (jieOf g)) ∧
      (∃ r, commandAt (allotment (jieOf g % 24)) 0 (jdn Y M D - E.termDay (jieOf g)) = some r) ∧
      ∀ s ty d : Int, commandAt (allotment (jieOf g % 24)) 0 (jdn Y M D - E.termDay (jieOf g)) = some (s, ty, d) ↔
        Commands (allotment (jieOf g % 24)) (jdn Y M D - E.termDay (jieOf g)) s ty d := by
  obtain ⟨g, k, h, a1, a2, ⟨a3, a3b⟩, _, _, _⟩ := term_of_day E tf Y M D hv h1 h2
  have hj : jieOf g = g ∨ jieOf g + 1 = g := by unfold jieOf; split <;> omega
  have hodd : jieOf g % 2 = 1 := by unfold jieOf; split <;> omega
  have m1 := term_span tf (jieOf g) g (by omega) (by omega) (by omega)
  have m2 := term_span tf (g + 1) (jieOf g + 2) (by omega) (by omega) (by omega)
  have m3 := term_span tf (jieOf g) (jieOf g + 2) (by omega) (by omega) (by omega)
  obtain ⟨_, w2, w3, _⟩ := allotment_wf (jieOf g % 24) (by omega)
  refine ⟨g, k, h, hodd, by omega, by omega, by omega,
    hide_eq E Y M D g k h a1 ((tf.ne_zero_iff _).2 ⟨by omega, by omega⟩) (by omega) (by omega),
    commandAt_some _ 0 _ (fun hn => by rw [hn] at w3; cases w3),
    commandAt_iff _ (fun e he => (w2 e he).1) _ (by omega)⟩

end Tyme

import Tyme.Lemmas.FestHoliday
/- C20, `LegalHoliday::next`: `find_iter` over the aligned table = a filter over its records; the two year-carry
loops walk the concatenation of the year blocks. Data-independent (everything follows from `HolWF`). -/
namespace Tyme.Fest
open FestSpec

theorem findIter_skip (r : Rx) : ∀ (s : Nat) (l : Bytes), r.findIter l s = r.findIter (l.drop s) 0 := by
  intro s
  induction s with
  | zero => intro l; rfl
  | succ s ih =>
    intro l
    cases l with
    | nil => rfl
    | cons b t =>
      simp only [Rx.findIter, List.drop_succ_cons]
      exact ih t

theorem findIter_fail (r : Rx) : ∀ (n : Nat) (l : Bytes),
    (∀ o, o < n → r.matchHere (l.drop o) = none) → r.findIter l 0 = r.findIter (l.drop n) 0 := by
  intro n
  induction n with
  | zero => intro l _; rfl
  | succ n ih =>
    intro l h
    cases l with
    | nil => rfl
    | cons b t =>
      have h0 := h 0 (by omega)
      simp only [List.drop_zero] at h0
      simp only [Rx.findIter, h0, List.drop_succ_cons]
      exact ih t (fun o ho => by simpa using h (o + 1) (by omega))

def AlignedSuffix (l : Bytes) : Prop := ∀ o, o < l.length → (okAll shape (l.drop o) = true ↔ o % 13 = 0)

theorem alignedSuffix_drop13 {l : Bytes} (h : AlignedSuffix l) : AlignedSuffix (l.drop 13) := by
  intro o ho
  have ho' : 13 + o < l.length := by simp at ho; omega
  have := h (13 + o) ho'
  rw [List.drop_drop]
  rw [this]; omega

/-- over aligned records, `find_iter` of a look-up pattern yields the records that begin with its digits -/
theorem findIter_aligned {r : Rx} {s : Bytes} {q : List Pat} (S : Spells r s q) :
    ∀ (n : Nat) (l : Bytes), l.length = 13 * n → AlignedSuffix l →
      r.findIter l 0 = (chunks n l).filter (fun c => s.isPrefixOf c) := by
  have hs13 : s.length ≤ 13 := by
    have := congrArg List.length S.shape
    simp [shape, holTail] at this; omega
  intro n
  induction n with
  | zero =>
    intro l hl _
    have : l = [] := List.eq_nil_of_length_eq_zero (by omega)
    subst this; rfl
  | succ n ih =>
    intro l hl hal
    have ihn := ih (l.drop 13) (by simp; omega) (alignedSuffix_drop13 hal)
    have hsh0 : okAll shape l = true := by
      have := (hal 0 (by omega)).2 (by omega); simpa using this
    have hpre : s.isPrefixOf (l.take 13) = s.isPrefixOf l := by
      rw [Bool.eq_iff_iff, List.isPrefixOf_iff_prefix, List.isPrefixOf_iff_prefix, List.prefix_iff_eq_take,
        List.prefix_iff_eq_take, List.take_take, Nat.min_eq_left hs13]
    simp only [chunks, List.filter_cons, hpre]
    cases l with
    | nil => simp at hl
    | cons b t =>
      by_cases hp : s.isPrefixOf (b :: t) = true
      · have hm : r.matchHere (b :: t) = some ((b :: t).take 13) := by rw [S.matchHere, hsh0, hp]; rfl
        have e13 : ((b :: t).take 13).length - 1 = 12 := by
          rw [List.length_take]; simp at hl ⊢; omega
        simp only [Rx.findIter, hm, e13]
        rw [findIter_skip _ 12 t]
        have : t.drop 12 = (b :: t).drop 13 := rfl
        rw [this, ihn, if_pos hp]
      · have hfail : ∀ o, o < 13 → r.matchHere ((b :: t).drop o) = none := by
          intro o ho
          rw [S.matchHere]
          by_cases h0' : o = 0
          · subst h0'; simp [hp]
          · have hne : okAll shape ((b :: t).drop o) ≠ true := fun hok => by
              have := (hal o (by omega)).1 hok
              omega
            simp [hne]
        rw [findIter_fail _ 13 (b :: t) hfail, ihn, if_neg hp]

section Blocks
variable {α : Type}

/-- the element at an integer position of a list, as an API outcome: `absent` outside the list -/
def atPos (l : List α) (p : Int) : Res α :=
  if p < 0 then .absent else
  match l[p.toNat]? with
  | some x => .found x
  | none => .absent

variable (B : Nat → List α)

def flat (n : Nat) : List α := ((List.range n).map B).flatten

def pre (j : Nat) : Nat := (flat B j).length

theorem flat_succ (n : Nat) : flat B (n + 1) = flat B n ++ B n := by
  simp [flat, List.range_succ]

theorem pre_succ (j : Nat) : pre B (j + 1) = pre B j + (B j).length := by
  simp [pre, flat_succ]

theorem flat_getElem? {n j i : Nat} (hj : j < n) (hi : i < (B j).length) : (flat B n)[pre B j + i]? = (B j)[i]? := by
  induction n with
  | zero => omega
  | succ n ih =>
    rw [flat_succ]
    by_cases hjn : j = n
    · subst hjn
      rw [List.getElem?_append_right (by simp [pre])]
      simp [pre]
    · have := ih (by omega)
      rw [List.getElem?_append_left]
      · exact this
      · rw [List.getElem?_eq_getElem hi] at this
        exact (List.getElem?_eq_some_iff.1 this).1

theorem flat_locate {n k : Nat} (hk : k < (flat B n).length) : ∃ j i, j < n ∧ i < (B j).length ∧ k = pre B j + i := by
  induction n with
  | zero => simp [flat] at hk
  | succ n ih =>
    by_cases h : k < (flat B n).length
    · obtain ⟨j, i, hj, hi, e⟩ := ih h
      exact ⟨j, i, by omega, hi, e⟩
    · rw [flat_succ, List.length_append] at hk
      exact ⟨n, k - pre B n, by omega, by simp only [pre]; omega, by simp only [pre]; omega⟩

variable (Y : Int → List α) (lo : Int) (N : Nat)

/-- the forward loop of `next`, started in block `j` at offset `index ≥ 0`, returns the element `index` places after the
start of block `j` in the concatenation (blocks = consecutive years; exactly the first and the last block are empty, and
the loop stops at the first empty block it meets) -/
theorem holFwd_flat (hY : ∀ j : Nat, j ≤ N → Y (lo + j) = B j) (hE : ∀ j, j ≤ N → (B j = [] ↔ j = 0 ∨ j = N)) :
    ∀ (f j : Nat) (index : Int), j < N → 0 ≤ index → N - j ≤ f →
      holFwd Y f index (lo + j) (B j) = atPos (flat B (N + 1)) (pre B j + index) := by
  intro f
  induction f with
  | zero => intro j index hj _ hf; omega
  | succ f ih =>
    intro j index hj hidx hf
    unfold holFwd
    split
    · rename_i hge
      have hY1 : Y (lo + j + 1) = B (j + 1) := by rw [← hY (j + 1) (by omega)]; congr 1; omega
      have hE1 := hE (j + 1) (by omega)
      simp only [hY1]
      split
      · rename_i hemp
        have hjN : j + 1 = N := by have := hE1.1 (List.eq_nil_of_length_eq_zero (by omega)); omega
        have hlen : (flat B (N + 1)).length = pre B j + (B j).length := by
          rw [flat_succ, (hE N (Nat.le_refl _)).2 (.inr rfl), List.append_nil, ← hjN, ← pre_succ]; rfl
        rw [atPos, if_neg (by omega), List.getElem?_eq_none (by omega)]
      · rename_i hemp
        have hjN : j + 1 ≠ N := fun h => hemp (by rw [hE1.2 (.inr h)]; exact Nat.zero_lt_one)
        have e : lo + (j : Int) + 1 = lo + ((j + 1 : Nat) : Int) := by omega
        rw [e, ih (j + 1) _ (by omega) (by omega) (by omega), pre_succ]
        congr 1; omega
    · rename_i hlt
      have hlt : index.toNat < (B j).length := by omega
      have e : ((pre B j : Int) + index).toNat = pre B j + index.toNat := by omega
      rw [atPos, if_neg (by omega), e, flat_getElem? B (by omega) hlt, List.getElem?_eq_getElem hlt]

theorem holBwd_flat (hY : ∀ j : Nat, j ≤ N → Y (lo + j) = B j) (hE : ∀ j, j ≤ N → (B j = [] ↔ j = 0 ∨ j = N)) :
    ∀ (f j : Nat) (index : Int), 0 < j → j ≤ N → index < ((B j).length : Int) → j ≤ f →
      holBwd Y f index (lo + j) (B j) = atPos (flat B (N + 1)) (pre B j + index) := by
  intro f
  induction f with
  | zero => intro j index hj _ _ hf; omega
  | succ f ih =>
    intro j index hj0 hj hidx hf
    unfold holBwd
    obtain ⟨j, rfl⟩ : ∃ j', j = j' + 1 := ⟨j - 1, by omega⟩
    split
    · rename_i hneg
      have hY1 : Y (lo + ((j + 1 : Nat) : Int) - 1) = B j := by rw [← hY j (by omega)]; congr 1; omega
      have hE1 := hE j (by omega)
      simp only [hY1]
      split
      · rename_i hemp
        obtain rfl : j = 0 := by have := hE1.1 (List.eq_nil_of_length_eq_zero (by omega)); omega
        have : pre B (0 + 1) = 0 := by simp [pre, flat, hE1.2 (.inl rfl)]
        rw [atPos, if_pos (by omega)]
      · rename_i hemp
        have hj1 : j ≠ 0 := fun h => hemp (by rw [hE1.2 (.inl h)]; exact Nat.zero_lt_one)
        have e : lo + ((j + 1 : Nat) : Int) - 1 = lo + (j : Int) := by omega
        rw [e, ih j _ (by omega) (by omega) (by omega) (by omega), pre_succ]
        congr 1; omega
    · rename_i hnn
      have hlt : index.toNat < (B (j + 1)).length := by omega
      have e : ((pre B (j + 1) : Int) + index).toNat = pre B (j + 1) + index.toNat := by omega
      rw [atPos, if_neg (by omega), e, flat_getElem? B (by omega) hlt, List.getElem?_eq_getElem hlt]

theorem holWalk_flat (hY : ∀ j : Nat, j ≤ N → Y (lo + j) = B j) (hE : ∀ j, j ≤ N → (B j = [] ↔ j = 0 ∨ j = N))
    {j i f : Nat} (hj : j ≤ N) (hi : i < (B j).length) (hf : N ≤ f) (n : Int) :
    (if n > 0 then holFwd Y f ((i : Int) + n) (lo + j) (B j) else holBwd Y f ((i : Int) + n) (lo + j) (B j)) =
      atPos (flat B (N + 1)) (((pre B j + i : Nat) : Int) + n) := by
  have hne : ¬ (j = 0 ∨ j = N) := fun h => by rw [(hE j hj).2 h] at hi; simp at hi
  have e : ((pre B j + i : Nat) : Int) + n = (pre B j : Int) + ((i : Int) + n) := by omega
  rw [e]
  split
  · exact holFwd_flat B Y lo N hY hE f j _ (by omega) (by omega) (by omega)
  · exact holBwd_flat B Y lo N hY hE f j _ (by omega) hj (by omega) (by omega)

end Blocks

def yearBlock (cs : List Bytes) (lo j : Nat) : List Bytes := cs.filter fun c => (parseHol c).y == lo + j

theorem yearBlocks_eq (cs : List Bytes) (lo n : Nat) : yearBlocks cs lo n = (List.range n).map (yearBlock cs lo) := rfl

theorem blocksOk_elim {cs : List Bytes} (h : blocksOk cs = true) :
    2 ≤ holNb cs ∧ holLo cs + holNb cs ≤ 10000 ∧
    flat (yearBlock cs (holLo cs)) (holNb cs) = cs ∧
    (∀ j, j ≤ holNb cs - 1 → (yearBlock cs (holLo cs) j = [] ↔ j = 0 ∨ j = holNb cs - 1)) ∧
    (∀ j, j < holNb cs → selfIndexed (yearBlock cs (holLo cs) j) = true) := by
  have hg : ∀ j, j < holNb cs → (yearBlocks cs (holLo cs) (holNb cs)).getD j [] = yearBlock cs (holLo cs) j := by
    intro j hj; simp [yearBlocks_eq, List.getD, hj]
  simp only [blocksOk, Bool.and_eq_true, decide_eq_true_eq, beq_iff_eq, List.all_eq_true] at h
  obtain ⟨⟨⟨⟨⟨⟨⟨⟨h1, _⟩, _⟩, h4⟩, h5⟩, h6⟩, h7⟩, h8⟩, h9⟩ := h
  have hl : (yearBlocks cs (holLo cs) (holNb cs)).length = holNb cs := by simp [yearBlocks_eq]
  rw [hl] at h1 h4 h7 h8
  rw [hg _ (by omega)] at h6 h7
  refine ⟨h1, h4, h5, ?_, fun j hj => h9 _ (by simp only [yearBlocks_eq, List.mem_map, List.mem_range]; exact ⟨j, hj, rfl⟩)⟩
  intro j hj
  constructor
  · intro he
    rcases Nat.lt_or_ge j (holNb cs - 1) with hlt | hge
    · have := allLt_spec h8 j hlt
      rw [hg _ (by omega), he] at this
      simp only [Bool.or_eq_true, beq_iff_eq] at this
      rcases this with h | h
      · exact .inl h
      · cases h
    · exact .inr (by omega)
  · rintro (rfl | rfl)
    · exact h6
    · exact h7

theorem firstPrefix_lt : ∀ (p : Bytes) (l : List Bytes) (s i : Nat), firstPrefix p l s = some i → s ≤ i ∧ i < s + l.length := by
  intro p l
  induction l with
  | nil => intro s i h; cases h
  | cons x t ih =>
    intro s i h
    unfold firstPrefix at h
    split at h
    · cases h; simp
    · have := ih (s + 1) i h
      simp; omega

section WF
variable {nNames : Nat} {data : Bytes} (W : HolWF nNames data)
include W

/-- the year's matches, as the model computes them, are the records of that year -/
theorem holY_eq_block {j : Nat} (hj : holLo (chunksOf data) + j < 10000) :
    (holYearRx ((holLo (chunksOf data) : Int) + (j : Int))).findIter data 0 =
      yearBlock (chunksOf data) (holLo (chunksOf data)) j := by
  have hy0 : (0 : Int) ≤ (holLo (chunksOf data) : Int) + (j : Int) := by omega
  have hy1 : (holLo (chunksOf data) : Int) + (j : Int) < 10000 := by omega
  have F' := fmtInt_spec (w := 3) hy0 hy1
  have S : Spells (holYearRx ((holLo (chunksOf data) : Int) + (j : Int))) (fmtInt 4 ((holLo (chunksOf data) : Int) + (j : Int)))
      ([.dig, .dig, .dig, .dig] ++ holTail) :=
    ⟨rfl, by simp [holYearRx], F'.2.1, by rw [F'.1]; rfl⟩
  rw [findIter_aligned S (data.length / 13) data (wf_len W) (fun _ ho => wf_aligned W ho)]
  -- the prefix test on a chunk is equality of years: its first four bytes print its year (holRecOk), and four-digit
  -- printing is injective below 10000
  apply List.filter_congr
  intro c hc
  have R := holRecOk_elim (wf_mem_recOk W hc)
  obtain ⟨a, b, _, _, _, _⟩ := valid_ranges R.valid
  have F := fmtInt_spec (w := 3) a b
  have h4 : c.take 4 = fmtInt 4 (parseHol c).y := by
    have := congrArg (List.take 4) R.date8
    rw [List.take_take] at this
    unfold f8 at this
    rw [List.append_assoc, List.take_left' F.1] at this
    exact this.symm
  rw [Bool.eq_iff_iff, List.isPrefixOf_iff_prefix, List.prefix_iff_eq_take, F'.1, h4, beq_iff_eq]
  constructor
  · intro e
    have := fmtInt_inj (w := 3) hy0 hy1 (by omega) b e
    omega
  · intro e
    have : ((parseHol c).y : Int) = (holLo (chunksOf data) : Int) + (j : Int) := by omega
    rw [this]

/-- re-reading a record found by the loops: `from_ymd` on its own digits returns it -/
theorem hol_reparse {k : Nat} {c : Bytes} (hc : (chunksOf data)[k]? = some c) :
    (match parseInt (c.take 4), parseNat ((c.drop 4).take 2), parseNat ((c.drop 6).take 2) with
      | some y', some m', some d' => holFromYmd data y' m' d'
      | _, _, _ => Res.refused) = .found (holOfRec (parseHol c)) := by
  have hr : (holRecs data)[k]? = some (parseHol c) := by rw [holRecs_chunk, hc]; rfl
  have R := holRecOk_elim (wf_mem_recOk W (List.mem_of_getElem? hc))
  have hpi : parseInt (c.take 4) = some ((parseHol c).y : Int) := by
    rw [parseInt_digits (parseNat_some_digits R.parseY), R.parseY]; rfl
  rw [hpi, R.parseM, R.parseD]
  simp only []
  rw [holFromYmd_spec W R.valid, holOn_record W hr]
  rfl

theorem holNext_record {k : Nat} {r : HolRec} (hr : (holRecs data)[k]? = some r) (n : Int) :
    holNext data (holOfRec r) n = holAnswer (holStep (holRecs data) k n) := by
  obtain ⟨hk, rfl⟩ := holRecs_lt hr
  have hck : (chunksOf data)[k]? = some ((data.drop (13 * k)).take 13) := chunks_getElem? hk
  generalize hc : (data.drop (13 * k)).take 13 = c at hck ⊢
  by_cases hn0 : n = 0
  · subst hn0
    simp only [holNext, holStep, BEq.rfl, if_true, Int.add_zero, Int.toNat_natCast, holRecs_chunk, hck]
    rw [if_neg (by omega)]; rfl
  obtain ⟨hb2, hlohi, hflat, hE, hself⟩ := blocksOk_elim W.blocks
  generalize hB : yearBlock (chunksOf data) (holLo (chunksOf data)) = B at *
  -- record k is element i of the block of its year, block j
  obtain ⟨j, i, hj, hi, hki⟩ := flat_locate B (k := k) (by rw [hflat, chunks_length]; exact hk)
  have hci : (B j)[i]? = some c := by rw [← flat_getElem? B hj hi, hflat, ← hki, hck]
  have hyear : (parseHol c).y = holLo (chunksOf data) + j := by
    have := List.mem_of_getElem? hci
    rw [← hB, yearBlock, List.mem_filter, beq_iff_eq] at this; exact this.2
  -- the model's year function on the years of the table
  have hY : ∀ j' : Nat, j' ≤ holNb (chunksOf data) - 1 →
      (fun y : Int => (holYearRx y).findIter data 0) ((holLo (chunksOf data) : Int) + (j' : Int)) = B j' := by
    intro j' hj'
    rw [← hB]; exact holY_eq_block W (by omega)
  -- today's digits find the record in its block
  have R := holRecOk_elim (wf_mem_recOk W (List.mem_of_getElem? hck))
  have hfirst : firstPrefix (c.take 8) (B j) 0 = some i := by
    have := allLt_spec (hself j hj) i hi
    rw [beq_iff_eq, List.getD, hci] at this; exact this
  have hyc : ((parseHol c).y : Int) = (holLo (chunksOf data) : Int) + (j : Int) := by omega
  have hne : (n == 0) = false := by simpa using hn0
  have hN1 : holNb (chunksOf data) = holNb (chunksOf data) - 1 + 1 := by omega
  simp only [holNext, hne, Bool.false_eq_true, if_false, holOfRec]
  rw [show fmtInt 4 ((parseHol c).y : Int) ++ fmtInt 2 ((parseHol c).m : Int) ++ fmtInt 2 ((parseHol c).d : Int) = c.take 8
    from R.date8, hyc, show (holYearRx ((holLo (chunksOf data) : Int) + (j : Int))).findIter data 0 = B j from hY j (by omega),
    hfirst]
  simp only []
  -- either loop returns the chunk `n` places further along the table
  rw [holWalk_flat B _ _ _ hY hE (by omega) hi (by unfold holFuel; omega) n, ← hN1, hflat, ← hki, atPos, holStep]
  by_cases hlt : (k : Int) + n < 0
  · rw [if_pos hlt, if_pos hlt]; rfl
  · rw [if_neg hlt, if_neg hlt, holRecs_chunk]
    cases hc' : (chunksOf data)[((k : Int) + n).toNat]? with
    | none => rfl
    | some c' => exact hol_reparse W hc'

theorem holRecs_valid {r : HolRec} (hr : r ∈ holRecs data) : Civil.valid r.y r.m r.d = true ∧ r.idx < nNames := by
  unfold holRecs at hr
  obtain ⟨c, hc, rfl⟩ := List.mem_map.1 hr
  have := holRecOk_elim (wf_mem_recOk W hc)
  exact ⟨this.valid, this.idx_lt⟩

theorem hol_own_offset {k : Nat} {r : HolRec} (hr : (holRecs data)[k]? = some r) (o : Nat) :
    (∃ mt, (holYmdRx r.y r.m r.d).matchHere (data.drop o) = some mt) ↔ o = 13 * k := by
  constructor
  · rintro ⟨mt, hm⟩
    obtain ⟨k', hk', ho, hmt, ey, em, ed⟩ := hol_match_record W (holRecs_valid W (List.mem_of_getElem? hr)).1 hm
    rw [hmt] at ey em ed
    rw [ho, holRecs_key_inj W (holRecs_getElem? hk') hr (by simp only [HolRec.key]; omega)]
  · rintro rfl
    exact ⟨_, hol_record_match W hr⟩

theorem holFromYmd_found_iff (y m d : Int) (h : Hol) :
    holFromYmd data y m d = .found h ↔
      ∃ r ∈ holRecs data, (r.y : Int) = y ∧ (r.m : Int) = m ∧ (r.d : Int) = d ∧ h = holOfRec r := by
  constructor
  · intro hf
    rw [holFromYmd_spec W (holFromYmd_found_valid hf)] at hf
    cases ho : holOn (holRecs data) y m d with
    | none => rw [ho] at hf; cases hf
    | some r =>
      rw [ho] at hf
      simp only [holAnswer, Res.found.injEq] at hf
      have hp := List.find?_some ho
      simp only [HolRec.isDate, Bool.and_eq_true, beq_iff_eq] at hp
      exact ⟨r, List.mem_of_find?_eq_some ho, hp.1.1, hp.1.2, hp.2, hf.symm⟩
  · rintro ⟨r, hr, rfl, rfl, rfl, rfl⟩
    obtain ⟨k, hk⟩ := List.mem_iff_getElem?.1 hr
    rw [holFromYmd_spec W (holRecs_valid W hr).1, holOn_record W hk]
    rfl

theorem holRecs_increasing {i j : Nat} (hij : i < j) {ri rj : HolRec}
    (hi : (holRecs data)[i]? = some ri) (hj : (holRecs data)[j]? = some rj) :
    Civil.lt (ri.y, ri.m, ri.d) (rj.y, rj.m, rj.d) := by
  have vi := valid_ranges (holRecs_valid W (List.mem_of_getElem? hi)).1
  have vj := valid_ranges (holRecs_valid W (List.mem_of_getElem? hj)).1
  have hlt := holRecs_key_lt W hij hi hj
  simp only [HolRec.key] at hlt
  simp only [Civil.lt]
  omega

theorem holNext_increasing {k : Nat} {r : HolRec} (hk : (holRecs data)[k]? = some r) {n : Int} (hn : 0 < n)
    {h' : Hol} (hs : holNext data (holOfRec r) n = .found h') : Civil.lt (r.y, r.m, r.d) (h'.y, h'.m, h'.d) := by
  rw [holNext_record W hk n, holStep, if_neg (by omega)] at hs
  cases hr' : (holRecs data)[((k : Int) + n).toNat]? with
  | none => rw [hr'] at hs; cases hs
  | some r' =>
    rw [hr'] at hs
    simp only [holAnswer, Res.found.injEq] at hs
    subst hs
    exact holRecs_increasing W (by omega) hk hr'

end WF

end Tyme.Fest

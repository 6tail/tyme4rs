import Tyme.Lemmas.LunarTotal
import Tyme.Lemmas.TermTotal
import Tyme.Thm.C08
/-! TOTALITY of `SixtyCycleDay::from_solar_day` inside a tiling interval: `get_lunar_day` and `get_term_day` return
(Lemmas/LunarTotal, Lemmas/TermTotal), the adjusted lunar year is an accepted year, and the pillar look-ups never refuse. -/
namespace Tyme.Cont
open Tyme Lunar SC

theorem ofSolarDay_total (E : Eph) (hl : ∀ y, E.leap y ≤ 12) (tf : TermFacts E) (nf : NewYearFacts E)
    (hF1 : 1721424 ≤ E.mFirst 1 0) (a b : Int) (ha0 : 0 ≤ a) (hb9 : b + 1 ≤ 9999) (ht : TilesOn E a b)
    (Y M D : Int) (hv : Civil.valid Y M D = true) (hYa : a ≤ Y) (hYb : Y ≤ b)
    (hlo : first E ⟨a, 0⟩ ≤ jdn Y M D) (hhi : jdn Y M D < first E ⟨b + 1, 0⟩) (h1 : E.termDay 1 ≤ jdn Y M D) :
    ∃ v, ofSolarDay E Y M D = some v := by
  obtain ⟨hY1, _⟩ := (valid_iff Y M D).1 hv
  obtain ⟨⟨x, k⟩, hr⟩ := ofSolar_total E hl nf hF1 a b ha0 hb9 ht Y M D hv hYa hYb hlo hhi
  obtain ⟨⟨g, kk⟩, hg⟩ := ofDay_total E tf Y M D hv (by omega) h1
  have hLY := lunarYearOK_of_tiles E hl tf nf a b hb9 ht Y M D hv hYa hYb hlo hhi x k hr
  have c0 : ¬ (24 * (Y - 1) + 3 < 0) := by omega
  have c1 : ¬ (E.termDay (24 * (Y - 1) + 3).toNat = 0) := (tf.ne_zero_iff _).2 ⟨by omega, by omega⟩
  have hadj := C08_adjYear Y x.y (decide (jdn Y M D < E.termDay (24 * (Y - 1) + 3).toNat)) (by simpa using hLY)
  have c2 : ¬ (adjYear Y x.y (decide (jdn Y M D < E.termDay (24 * (Y - 1) + 3).toNat)) < -1 ∨
      adjYear Y x.y (decide (jdn Y M D < E.termDay (24 * (Y - 1) + 3).toNat)) > 9999) := by
    rw [hadj]; split <;> omega
  unfold ofSolarDay
  simp only [c0, if_false, c1, hr, c2, hg, fromYm_first E Y ⟨by omega, by omega⟩, lunarMonthPillar_eq, dayPillar_eq]
  exact ⟨_, rfl⟩

end Tyme.Cont

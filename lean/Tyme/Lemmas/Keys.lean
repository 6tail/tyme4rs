/-! Byte strings as numbers: comparing two names costs the kernel one step on their packed forms, hundreds on byte lists. -/
namespace Tyme

/-- a byte string as one number, least significant byte first (evaluated by the kernel, hence the raw functions) -/
def pack : List Nat → Nat
  | [] => 0
  | b :: r => Nat.add b (Nat.mul 256 (pack r))

def nodupNat : List Nat → Bool
  | [] => true
  | x :: xs => xs.all (fun y => !Nat.beq x y) && nodupNat xs

theorem nodupNat_spec : ∀ {l : List Nat}, nodupNat l = true → l.Nodup
  | [], _ => List.nodup_nil
  | x :: xs, h => by
    simp only [nodupNat, Bool.and_eq_true, List.all_eq_true, Bool.not_eq_true'] at h
    exact List.nodup_cons.mpr ⟨fun hx => Nat.ne_of_beq_eq_false (h.1 x hx) rfl, nodupNat_spec h.2⟩

theorem nodup_of_keys {α : Type} (key : α → Nat) {l : List α} (h : nodupNat (l.map key) = true) : l.Nodup :=
  (List.pairwise_map.mp (nodupNat_spec h)).imp fun hne heq => hne (congrArg key heq)

theorem key_inj {α : Type} (key : α → Nat) {l : List α} (h : nodupNat (l.map key) = true) {a b : α}
    (ha : a ∈ l) (hb : b ∈ l) (hk : key a = key b) : a = b :=
  have p := List.pairwise_map.mp (nodupNat_spec h)
  List.Pairwise.forall_of_forall_of_flip (R := fun a b => key a = key b → a = b) (fun _ _ _ => rfl)
    (p.imp fun hne e => absurd e hne) (p.imp fun hne e => absurd e.symm hne) ha hb hk
end Tyme

import Tyme.Lemmas.ScmDays
import Tyme.Lemmas.DayViewTotal
/-!
Helper lemma for C13: TOTAL correctness of `SixtyCycleMonth::get_days` inside a tiling interval — the calls it makes
(`get_lunar_day`'s guess-and-walk, `get_term_day`'s walk, the pillar look-ups, `SolarDay::next`) all return, with the fuel the
models carry, so the list IS returned.
-/
namespace Tyme.Cont
open Tyme Lunar

theorem scmDays_total (E : Eph) (hl : ∀ y, E.leap y ≤ 12) (tf : TermFacts E) (nf : NewYearFacts E)
    (hF1 : 1721424 ≤ E.mFirst 1 0) (a b : Int) (ha0 : 0 ≤ a) (hb9 : b + 1 ≤ 9999) (ht : TilesOn E a b)
    (y : Int) (k : Nat) (hk : k < 12) (hy1 : 1 ≤ y) (hay : a = 0 ∨ a + 1 ≤ y) (hyb : y + 1 ≤ b)
    (fm : Int) (hfm : SC.firstMonthPillar y = some fm) :
    ∃ L, scmDays E ⟨y, SC.cycNext fm k⟩ = some L := by
  obtain ⟨g0, hg0⟩ : ∃ g0 : Nat, (g0 : Int) = 24 * (y - 1) + 3 + 2 * (k : Int) := ⟨(24 * (y - 1) + 3 + 2 * (k : Int)).toNat, by omega⟩
  have hg1 : 1 ≤ g0 := by omega
  have gap := term_span tf g0 (g0 + 2) hg1 (by omega) (by omega)
  -- the two Jie days are civil days of the range: between Lichun of y and Lichun of y + 1
  have t1 := (term_of_sc_year tf y (by omega) g0 hg1 (by omega) (by omega)).1 hy1
  have t2 := (term_of_sc_year tf y (by omega) (g0 + 2) (by omega) (by omega) (by omega)).2
  have hT0lo : jdnFirst ≤ E.termDay g0 := by have := (jan1_range y hy1 (by omega)).1; omega
  have hT2hi : E.termDay (g0 + 2) ≤ jdnLast := by have := (jan1_range (y + 1) (by omega) (by omega)).2; omega
  obtain ⟨vd, ed⟩ := C01_jdn_ofJdn (E.termDay g0) hT0lo (by omega)
  have e0 : (24 * (y - 1) + 3 + 2 * (k : Int)).toNat = g0 := by omega
  have hfd : scmFirstDay E ⟨y, SC.cycNext fm k⟩ = some (ofJdn (E.termDay g0)) := by
    rw [scmFirstDay_iff, (scmJie_month y k hk fm hfm).2, e0]
    exact ⟨by omega, by omega, (tf.ne_zero_iff g0).2 ⟨hg1, by omega⟩, hT0lo, by omega, rfl⟩
  unfold scmDays
  rw [hfd]
  -- every day up to the next Jie day is inside the interval, so it has a view, and the view decides the loop
  refine scmDaysLoop_total E _ (E.termDay g0) (E.termDay (g0 + 2)) hT0lo hT2hi ?_
    scmFuel _ vd (by omega) (by omega) (by have : scmFuel = 3652062 := rfl; omega)
  intro d hv h1 h2
  obtain ⟨q1, q2, q3, q4, q5⟩ := scm_day_in_interval tf nf a b ha0 hb9 y hy1 hay hyb g0 (by omega) (by omega) d.1 d.2.1 d.2.2 hv h1 h2
  obtain ⟨v, hvw⟩ := ofSolarDay_total E hl tf nf hF1 a b ha0 hb9 ht d.1 d.2.1 d.2.2 hv q1 q2 q3 q4 q5
  have hLY := lunarYearOK_of_tiles E hl tf nf a b hb9 ht d.1 d.2.1 d.2.2 hv q1 q2 q3 q4
  exact ⟨v, hvw, scm_same_of_view tf y k ⟨by omega, by omega⟩ hk fm hfm g0 hg0 d.1 d.2.1 d.2.2 hv v hvw hLY h1 h2⟩

end Tyme.Cont

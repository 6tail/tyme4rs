/-! A sequence that gains at least `c` at each step gains at least `c` per step over any stretch: the induction behind
every monotonicity and spacing fact of the development (term days, new-year days, January firsts, month positions). -/
namespace Tyme

theorem gap_of_step {T : Nat → Int} {a N : Nat} {c : Int} (step : ∀ g, a ≤ g → g + 1 ≤ N → T g + c ≤ T (g + 1)) {x y : Nat}
    (hx : a ≤ x) (hxy : x ≤ y) (hy : y ≤ N) : T x + c * ((y : Int) - x) ≤ T y := by
  induction y with
  | zero => have : x = 0 := by omega
            subst this; simp
  | succ y ih =>
    rcases Nat.lt_or_ge x (y + 1) with h | h
    · have := ih (by omega) (by omega)
      have := step y (by omega) hy
      rw [show ((y + 1 : Nat) : Int) - x = ((y : Int) - x) + 1 by omega, Int.mul_add, Int.mul_one]
      omega
    · have : x = y + 1 := by omega
      subst this; simp

theorem gapI_of_step {T : Int → Int} {a N c : Int} (step : ∀ y, a ≤ y → y + 1 ≤ N → T y + c ≤ T (y + 1)) {p q : Int}
    (hp : a ≤ p) (hpq : p ≤ q) (hq : q ≤ N) : T p + c * (q - p) ≤ T q := by
  have := gap_of_step (T := fun d : Nat => T (p + d)) (a := 0) (N := (q - p).toNat) (c := c)
    (fun g _ hg => by
      show T (p + (g : Nat)) + c ≤ T (p + ((g + 1 : Nat) : Int))
      rw [show p + ((g + 1 : Nat) : Int) = p + g + 1 by omega]; exact step _ (by omega) (by omega))
    (Nat.le_refl 0) (Nat.zero_le _) (Nat.le_refl _)
  simp only [Int.natCast_zero, Int.add_zero, Int.sub_zero] at this
  rwa [Int.toNat_of_nonneg (by omega), show p + (q - p) = q by omega] at this

end Tyme

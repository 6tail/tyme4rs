import Tyme.Model.Clock
import Tyme.Thm.C01
/-! Helper lemmas for C12 (clock arithmetic, Julian date ⇄ instant). Core Lean only. -/
namespace Tyme
namespace Clock

theorem tmod_nonpos_of_nonpos (v k : Int) (hv : v ≤ 0) : Int.tmod v k ≤ 0 := by
  have h := Int.tmod_nonneg (a := -v) k (by omega)
  rw [Int.neg_tmod] at h
  omega

/-- one trunc-and-repair stage (`x / k`, `x % k` of Rust, then `if r < 0 { r += k; q -= 1 }`) is floor division -/
theorem stage (v k : Int) (hk : 0 < k) :
    (if Int.tmod v k < 0 then (Int.tmod v k + k, Int.tdiv v k - 1) else (Int.tmod v k, Int.tdiv v k))
      = (v % k, v / k) := by
  have h1 := Int.emod_nonneg v (Int.ne_of_gt hk)
  have h2 := Int.emod_lt_of_pos v hk
  have h3 := Int.sign_eq_one_of_pos hk
  rw [Int.tmod_eq_emod, Int.tdiv_eq_ediv]
  split <;> split <;> simp only [Prod.mk.injEq] <;> omega

theorem stage60 (v : Int) :
    (if Int.tmod v 60 < 0 then (Int.tmod v 60 + 60, Int.tdiv v 60 - 1) else (Int.tmod v 60, Int.tdiv v 60))
      = (v % 60, v / 60) := stage v 60 (by decide)

theorem stage24 (v : Int) :
    (if Int.tmod v 24 < 0 then (Int.tmod v 24 + 24, Int.tdiv v 24 - 1) else (Int.tmod v 24, Int.tdiv v 24))
      = (v % 24, v / 24) := stage v 24 (by decide)

theorem carry_spec (s m h n : Int) :
    let r := carry s m h n
    86400 * r.1 + 3600 * r.2.1 + 60 * r.2.2.1 + r.2.2.2 = 3600 * h + 60 * m + s + n ∧
    0 ≤ r.2.1 ∧ r.2.1 < 24 ∧ 0 ≤ r.2.2.1 ∧ r.2.2.1 < 60 ∧ 0 ≤ r.2.2.2 ∧ r.2.2.2 < 60 := by
  unfold carry
  simp only [stage60, stage24]
  omega

def iter : Nat → Time → Time
  | 0, t => t
  | n+1, t => iter n (tick t)

end Clock

def secsFirst : Int := 86400 * jdnFirst
def secsLast : Int := 86400 * jdnLast + 86399

theorem clock_valid_iff (t : Time) : Clock.valid t = true ↔
    (Civil.validT t.day = true ∧ 0 ≤ t.h ∧ t.h ≤ 23 ∧ 0 ≤ t.mi ∧ t.mi ≤ 59 ∧ 0 ≤ t.s ∧ t.s ≤ 59) := by
  unfold Clock.valid Civil.validT
  simp only [Bool.and_eq_true, decide_eq_true_eq]

theorem timeOk_iff (y m d h mi s : Int) : timeOk y m d h mi s = true ↔
    (Civil.valid y m d = true ∧ 0 ≤ h ∧ h ≤ 23 ∧ 0 ≤ mi ∧ mi ≤ 59 ∧ 0 ≤ s ∧ s ≤ 59) := by
  unfold timeOk
  rw [C01_accept_iff]
  simp only [Bool.and_eq_true, decide_eq_true_eq]
  constructor
  · rintro ⟨⟨⟨a, b⟩, c⟩, d⟩; exact ⟨d, a.1, a.2, b.1, b.2, c.1, c.2⟩
  · rintro ⟨d, a1, a2, b1, b2, c1, c2⟩; exact ⟨⟨⟨⟨a1, a2⟩, ⟨b1, b2⟩⟩, ⟨c1, c2⟩⟩, d⟩

theorem mkTime_some (r : Int × Int × Int) (h mi s : Int) (hr : Civil.validT r = true)
    (h1 : 0 ≤ h) (h2 : h ≤ 23) (h3 : 0 ≤ mi) (h4 : mi ≤ 59) (h5 : 0 ≤ s) (h6 : s ≤ 59) :
    mkTime? r h mi s = some ⟨r, h, mi, s⟩ := by
  unfold mkTime?
  have : timeOk r.1 r.2.1 r.2.2 h mi s = true := (timeOk_iff _ _ _ _ _ _).2 ⟨hr, h1, h2, h3, h4, h5, h6⟩
  simp [this]

theorem mkTime_valid (r : Int × Int × Int) (h mi s : Int) (t : Time) (e : mkTime? r h mi s = some t) :
    t = ⟨r, h, mi, s⟩ ∧ Clock.valid t = true := by
  unfold mkTime? at e
  split at e
  · rename_i hok
    injection e with e
    subst e
    refine ⟨rfl, ?_⟩
    rw [clock_valid_iff]
    exact (timeOk_iff _ _ _ _ _ _).1 hok
  · cases e

/-! ### the model's constructors on the seconds line (`secs`, one-to-one onto [secsFirst, secsLast]: C12_secs_*) -/

theorem secs_eq (t : Time) : secs t = 86400 * jdnT t.day + 3600 * t.h + 60 * t.mi + t.s := rfl

/-- THE bridge from the model's constructors to the seconds line: every instant the model builds is
`mkTime? (ofJdn j) h mi s`, and that is THE existing instant with day number j and clock h:mi:s -/
theorem mkTime_ofJdn (j h mi s : Int) (t : Time) :
    mkTime? (ofJdn j) h mi s = some t ↔
      (Clock.valid t = true ∧ jdnT t.day = j ∧ t.h = h ∧ t.mi = mi ∧ t.s = s) := by
  constructor
  · intro e
    obtain ⟨rfl, v⟩ := mkTime_valid _ _ _ _ t e
    have hok : solarDayOk (ofJdn j).1 (ofJdn j).2.1 (ofJdn j).2.2 = true := by
      rw [C01_accept_iff]; exact ((clock_valid_iff _).1 v).1
    obtain ⟨r1, r2⟩ := (ofJdn_ok_iff j).1 hok
    exact ⟨v, (C01_jdn_ofJdn j r1 r2).2, rfl, rfl, rfl⟩
  · rintro ⟨v, rfl, rfl, rfl, rfl⟩
    obtain ⟨vd, b⟩ := (clock_valid_iff t).1 v
    rw [ofJdn_jdnT vd, mkTime_some t.day t.h t.mi t.s vd b.1 b.2.1 b.2.2.1 b.2.2.2.1 b.2.2.2.2.1 b.2.2.2.2.2]

/-- in terms of `secs`: the clock fields being in range, it is THE existing instant at 86400·j + 3600·h + 60·mi + s -/
theorem mkTime_ofJdn_secs (j h mi s : Int) (t : Time) (hh : 0 ≤ h ∧ h ≤ 23) (hmi : 0 ≤ mi ∧ mi ≤ 59)
    (hs : 0 ≤ s ∧ s ≤ 59) :
    mkTime? (ofJdn j) h mi s = some t ↔
      (Clock.valid t = true ∧ secs t = 86400 * j + 3600 * h + 60 * mi + s) := by
  rw [mkTime_ofJdn, secs_eq]
  constructor
  · rintro ⟨v, rfl, rfl, rfl, rfl⟩; exact ⟨v, rfl⟩
  · rintro ⟨v, e⟩
    obtain ⟨_, b⟩ := (clock_valid_iff t).1 v
    exact ⟨v, by omega, by omega, by omega, by omega⟩

theorem secs_surj (T : Int) (h1 : secsFirst ≤ T) (h2 : T ≤ secsLast) :
    ∃ t, Clock.valid t = true ∧ secs t = T := by
  unfold secsFirst at h1
  unfold secsLast at h2
  obtain ⟨v, e⟩ := C01_jdn_ofJdn (T / 86400) (by omega) (by omega)
  refine ⟨⟨ofJdn (T / 86400), T % 86400 / 3600, T % 3600 / 60, T % 60⟩, ?_, ?_⟩
  · rw [clock_valid_iff]; dsimp only; exact ⟨v, by omega, by omega, by omega, by omega, by omega, by omega⟩
  · rw [secs_eq]; dsimp only; omega

/-- `next` builds its result in two steps that are one: the day check of `SolarDay::next` is repeated by `from_ymd_hms` -/
theorem dayNext_bind_mkTime (a : Int × Int × Int) (k h mi s : Int) :
    ((dayNext a k).bind fun d => mkTime? d h mi s) = mkTime? (ofJdn (jdnT a + k)) h mi s := by
  unfold dayNext
  show (if solarDayOk (ofJdn (jdnT a + k)).1 (ofJdn (jdnT a + k)).2.1 (ofJdn (jdnT a + k)).2.2 = true
    then some (ofJdn (jdnT a + k)) else none).bind _ = _
  split <;> rename_i hok
  · rfl
  · unfold mkTime? timeOk
    simp [hok]

theorem timeBefore_iff_lt (a b : Time) : timeBefore a b = true ↔ Clock.lt a b := by
  unfold timeBefore Clock.lt
  simp only [bne_iff_ne, ne_eq, ite_not]
  split
  · rename_i hd
    rw [hd]
    simp only [lt_irrefl' b.day, false_or, true_and]
    repeat' split
    all_goals (simp only [decide_eq_true_eq]; omega)
  · rename_i hd
    rw [dayBefore_iff_lt]
    simp only [hd, false_and, or_false]

theorem timeAfter_eq_before (a b : Time) : timeAfter a b = timeBefore b a := by
  unfold timeAfter timeBefore
  simp only [dayAfter_eq_before, bne_iff_ne, ne_eq, ite_not, gt_iff_lt, eq_comm (a := a.day), eq_comm (a := a.h),
    eq_comm (a := a.mi)]

/-- one digit of a fraction g/Q in radix r: ⌊r·g/Q⌋ and what is left over -/
theorem floorDigit (r g Q : Int) (hQ : 0 < Q) (h0 : 0 ≤ g) (h1 : g < Q) (hr : 0 < r) :
    0 ≤ r * g / Q ∧ r * g / Q < r ∧ 0 ≤ r * g - Q * (r * g / Q) ∧ r * g - Q * (r * g / Q) < Q := by
  have e := Int.mul_ediv_add_emod (r * g) Q
  have k0 := Int.emod_nonneg (r * g) (show Q ≠ 0 by omega)
  have k1 := Int.emod_lt_of_pos (r * g) hQ
  exact ⟨Int.ediv_nonneg (Int.mul_nonneg (by omega) h0) (by omega),
    (Int.ediv_lt_iff_lt_mul hQ).2 (Int.mul_lt_mul_of_pos_left h1 hr), by omega, by omega⟩

theorem jdClock_spec (p q : Int) (hq : 0 < q) :
    let c := jdClock p q
    86400 * c.1 + 3600 * c.2.1 + 60 * c.2.2.1 + c.2.2.2 = jdSecs p q ∧
    0 ≤ c.2.1 ∧ c.2.1 ≤ 24 ∧ 0 ≤ c.2.2.1 ∧ c.2.2.1 ≤ 59 ∧ 0 ≤ c.2.2.2 ∧ c.2.2.2 ≤ 59 ∧
    (c.2.1 = 24 → c.2.2.1 = 0 ∧ c.2.2.2 = 0) := by
  unfold jdClock jdSecs
  dsimp only
  -- day and fraction: 2p + q = Q·d + g with 0 ≤ g < Q
  have ew := Int.mul_ediv_add_emod p q
  have r0 := Int.emod_nonneg p (show q ≠ 0 by omega)
  have r1 := Int.emod_lt_of_pos p hq
  generalize p / q = w at *
  generalize p % q = r at *
  generalize hd : (if 2 * r + q ≥ 2 * q then w + 1 else w) = d
  generalize hg : (if 2 * r + q ≥ 2 * q then 2 * r + q - 2 * q else 2 * r + q) = g
  have eV : 2 * p + q = 2 * q * d + g ∧ 0 ≤ g ∧ g < 2 * q := by
    have : 2 * q * (w + 1) = 2 * (q * w) + 2 * q := by rw [Int.mul_add, Int.mul_one, Int.mul_assoc]
    have : 2 * q * w = 2 * (q * w) := by rw [Int.mul_assoc]
    split at hd <;> split at hg <;> subst hd hg <;> omega
  clear hd hg ew r0 r1
  obtain ⟨eV, g0, g1⟩ := eV
  generalize hQ : 2 * q = Q at *
  have hQ0 : 0 < Q := by omega
  -- hour, minute, (rounded) second: three digits of g/Q
  obtain ⟨h0, h1, k0, k1⟩ := floorDigit 24 g Q hQ0 g0 g1 (by decide)
  generalize 24 * g / Q = hh at *
  generalize e1 : 24 * g - Q * hh = gg1 at *
  obtain ⟨m0, m1, l0, l1⟩ := floorDigit 60 gg1 Q hQ0 k0 k1 (by decide)
  generalize 60 * gg1 / Q = mm at *
  generalize e2 : 60 * gg1 - Q * mm = gg2 at *
  have es := Int.mul_ediv_add_emod (60 * gg2 + q) Q
  have s0 : 0 ≤ (60 * gg2 + q) / Q := Int.ediv_nonneg (by omega) (by omega)
  have s1 : (60 * gg2 + q) / Q < 61 := (Int.ediv_lt_iff_lt_mul hQ0).2 (by omega)
  have n0 := Int.emod_nonneg (60 * gg2 + q) (show Q ≠ 0 by omega)
  have n1 := Int.emod_lt_of_pos (60 * gg2 + q) hQ0
  generalize (60 * gg2 + q) / Q = ss at *
  generalize (60 * gg2 + q) % Q = R at *
  have tot : (86400 * (2 * p + q) + q) / Q = 86400 * d + 3600 * hh + 60 * mm + ss :=
    ((Int.ediv_emod_unique (r := R) hQ0).2 ⟨by
      have : Q * (86400 * d + 3600 * hh + 60 * mm + ss) = 86400 * (Q * d) + 3600 * (Q * hh) + 60 * (Q * mm) + Q * ss := by
        simp only [Int.mul_add, Int.mul_left_comm]
      rw [this]; omega, n0, n1⟩).1
  rw [tot]
  refine ⟨?_, ?_⟩
  · repeat' split
    all_goals omega
  · repeat' split
    all_goals omega

theorem jdClock_midnight (m : Int) : jdClock (2 * m - 1) 2 = (m, 0, 0, 0) := by
  unfold jdClock
  have e1 : (2 * m - 1) / 2 = m - 1 := by omega
  have e2 : (2 * m - 1) % 2 = 1 := by omega
  simp only [e1, e2]
  simp

/-- `jdSecs` is THE second T with 2q·T ≤ 86400·(2p+q) + q < 2q·T + 2q (nearest second, a tie going up) -/
theorem jdSecs_eq_iff (p q T : Int) (hq : 0 < q) :
    jdSecs p q = T ↔
      (2 * q * T ≤ 86400 * (2 * p + q) + q ∧ 86400 * (2 * p + q) + q < 2 * q * T + 2 * q) := by
  unfold jdSecs
  have hQ : (0 : Int) < 2 * q := by omega
  generalize 86400 * (2 * p + q) + q = N
  have e : (T + 1) * (2 * q) = 2 * q * T + 2 * q := by rw [Int.add_mul, Int.one_mul, Int.mul_comm]
  rw [← e, Int.mul_comm (2 * q) T, ← Int.le_ediv_iff_mul_le hQ, ← Int.ediv_lt_iff_lt_mul hQ]
  omega

end Tyme

import Tyme.Model.AlmanacCycles
import Tyme.Spec.AlmanacCycles
import Tyme.Lemmas.IndexOf
/-! Helper lemmas for C17: `index_of` is the mathematical modulo. -/
namespace Tyme.Alm
open Tyme

theorem indexOf_eq_emod (i n : Int) (hn : 0 < n) : indexOf i n = i % n := tmod_repair i n hn

theorem indexOf_60 : ∀ i : Int, indexOf i 60 = i % 60 := fun i => indexOf_eq_emod i 60 (by decide)

theorem branch_eq (p : Int) : branch p = p % 12 := indexOf_eq_emod p 12 (by decide)

/-- a getter that reads two pillars through `branch` only agrees with a function of the two branches as soon as it does on
the 144 pairs of branches -/
theorem by_branches (f g : Int → Int → Int) (hf : ∀ p q, f p q = f (branch p) (branch q))
    (tab : ∀ b : Nat, b < 12 → ∀ r : Nat, r < 12 → f (b : Int) (r : Int) = g (b : Int) (r : Int)) (p q : Int) :
    f p q = g (p % 12) (q % 12) := by
  have := tab (p % 12).toNat (by omega) (q % 12).toNat (by omega)
  rw [show (((p % 12).toNat : Nat) : Int) = p % 12 by omega, show (((q % 12).toNat : Nat) : Int) = q % 12 by omega] at this
  rw [hf, branch_eq, branch_eq, this]

theorem branch_branch (p : Int) : branch (branch p) = branch p := by
  simp only [branch_eq]; omega

/-- the literal mansion table is 8·weekday + 10 (mod 28) -/
theorem mansionBase_of (w : Int) (h0 : 0 ≤ w) (h6 : w ≤ 6) : mansionBase w = some ((8 * w + 10) % 28) := by
  have hc : w = 0 ∨ w = 1 ∨ w = 2 ∨ w = 3 ∨ w = 4 ∨ w = 5 ∨ w = 6 := by omega
  rcases hc with h | h | h | h | h | h | h <;> (subst h; decide)

end Tyme.Alm

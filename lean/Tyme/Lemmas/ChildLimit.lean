import Tyme.Model.ChildLimit
import Tyme.Lemmas.Jd
import Tyme.Lemmas.Clock
import Tyme.Lemmas.Cycle
/-! Helper lemmas for C16 (calendar addition of `next`, month starts on the day line). Core Lean only. -/
namespace Tyme
open CL

/-- month with linear index i = 12·y + (m − 1) -/
def ofMonthIdx (i : Int) : Int × Int := (i / 12, i % 12 + 1)

/-- `SolarMonth::next` with a non-negative step from a month m ≥ 1 of a year ≥ 0 is addition on the linear month index -/
theorem monthNext_eq (y m n : Int) (hy : 0 ≤ y) (hm : 1 ≤ m) (hn : 0 ≤ n) :
    monthNext y m n =
      if (12 * y + (m - 1) + n) / 12 < 1 ∨ (12 * y + (m - 1) + n) / 12 > 9999 then none
      else some (ofMonthIdx (12 * y + (m - 1) + n)) := by
  unfold monthNext ofMonthIdx
  dsimp only
  rw [show Term.indexOf (m - 1 + n) 12 = (m - 1 + n) % 12 from SC.indexOf_12 _]
  have e : Int.tdiv (y * 12 + (m - 1 + n)) 12 = (12 * y + (m - 1) + n) / 12 := by
    rw [Int.tdiv_eq_ediv_of_nonneg (by omega)]
    congr 1; omega
  rw [e]
  have e2 : (m - 1 + n) % 12 = (12 * y + (m - 1) + n) % 12 := by omega
  rw [e2]

/-- one step of `SolarMonth::next` from a month of the range: refused after 9999-12; otherwise a month of the range,
one further on the linear month index, whose first lies `get_day_count` days later -/
theorem monthNext_one (y m : Int) (hy : 1 ≤ y) (hy2 : y ≤ 9999) (hm : 1 ≤ m) (hm2 : m ≤ 12) :
    if y = 9999 ∧ m = 12 then monthNext y m 1 = none
    else ∃ sm' : Int × Int, monthNext y m 1 = some sm' ∧ 1 ≤ sm'.1 ∧ sm'.1 ≤ 9999 ∧ 1 ≤ sm'.2 ∧ sm'.2 ≤ 12 ∧
      12 * sm'.1 + sm'.2 = 12 * y + m + 1 ∧ jdn sm'.1 sm'.2 1 = jdn y m 1 + monthLen y m := by
  rw [monthNext_eq y m 1 (by omega) hm (by decide)]
  split <;> rename_i h
  · rw [h.1, h.2]; decide
  · refine ⟨_, by rw [if_neg (by omega)], ?_⟩
    unfold ofMonthIdx
    dsimp only
    exact ⟨by omega, by omega, by omega, by omega, by omega,
      jdn_month_succ_idx _ _ _ _ hm hm2 (by omega) (by omega) (by omega)⟩

theorem jdn_idx_succ (i : Int) :
    jdn (ofMonthIdx (i + 1)).1 (ofMonthIdx (i + 1)).2 1 =
      jdn (ofMonthIdx i).1 (ofMonthIdx i).2 1 + monthLen (ofMonthIdx i).1 (ofMonthIdx i).2 := by
  unfold ofMonthIdx
  exact jdn_month_succ_idx _ _ _ _ (by omega) (by omega) (by omega) (by omega) (by omega)

/-- month starts are monotone on the day line and at most 31 days apart per month -/
theorem jdn_idx_add (n : Nat) (i : Int) :
    jdn (ofMonthIdx i).1 (ofMonthIdx i).2 1 + 21 * n ≤ jdn (ofMonthIdx (i + n)).1 (ofMonthIdx (i + n)).2 1 ∧
    jdn (ofMonthIdx (i + n)).1 (ofMonthIdx (i + n)).2 1 ≤ jdn (ofMonthIdx i).1 (ofMonthIdx i).2 1 + 31 * n := by
  have step := fun j : Int => And.intro (jdn_idx_succ j) (monthLen_bounds (ofMonthIdx j).1 (ofMonthIdx j).2)
  have lo := gapI_of_step (T := fun j => jdn (ofMonthIdx j).1 (ofMonthIdx j).2 1) (c := 21) (a := i) (N := i + n)
    (fun j _ _ => by have := step j; omega) (Int.le_refl i) (by omega) (Int.le_refl _)
  have hi := gapI_of_step (T := fun j => -jdn (ofMonthIdx j).1 (ofMonthIdx j).2 1) (c := -31) (a := i) (N := i + n)
    (fun j _ _ => by have := step j; omega) (Int.le_refl i) (by omega) (Int.le_refl _)
  constructor <;> omega

theorem ofMonthIdx_month (i : Int) : 1 ≤ (ofMonthIdx i).2 ∧ (ofMonthIdx i).2 ≤ 12 := by
  unfold ofMonthIdx; dsimp only; omega

theorem carries_spec (d h mi s : Int) (hh : 0 ≤ h) (hmi : 0 ≤ mi) (hs : 0 ≤ s) :
    let k := carries d h mi s
    86400 * k.1 + 3600 * k.2.1 + 60 * k.2.2.1 + k.2.2.2 = 86400 * d + 3600 * h + 60 * mi + s ∧
    d ≤ k.1 ∧ 0 ≤ k.2.1 ∧ k.2.1 ≤ 23 ∧ 0 ≤ k.2.2.1 ∧ k.2.2.1 ≤ 59 ∧ 0 ≤ k.2.2.2 ∧ k.2.2.2 ≤ 59 := by
  unfold carries
  dsimp only
  omega

/-- the overflow walk: it ends in a month where the remaining day number fits, and month start + day number is conserved -/
theorem walk_spec : ∀ (f : Nat) (d : Int) (sm : Int × Int) (r : Int × Int × Int),
    1 ≤ sm.1 → sm.1 ≤ 9999 → 1 ≤ sm.2 → sm.2 ≤ 12 → 1 ≤ d → walk f d sm = some r →
    1 ≤ r.1 ∧ r.1 ≤ 9999 ∧ 1 ≤ r.2.1 ∧ r.2.1 ≤ 12 ∧ 1 ≤ r.2.2 ∧ r.2.2 ≤ monthLen r.1 r.2.1 ∧
    jdn r.1 r.2.1 1 + r.2.2 = jdn sm.1 sm.2 1 + d ∧
    12 * sm.1 + sm.2 ≤ 12 * r.1 + r.2.1 ∧ (d ≤ monthLen sm.1 sm.2 → r = (sm.1, sm.2, d)) := by
  intro f
  induction f with
  | zero => intro d sm r _ _ _ _ _ h; simp [walk] at h
  | succ f ih =>
    intro d sm r h1 h2 h3 h4 h5 h
    simp only [walk] at h
    split at h
    · rename_i hgt
      have hn := monthNext_one sm.1 sm.2 h1 h2 h3 h4
      split at hn
      · rw [hn] at h; cases h
      · obtain ⟨sm', e, n1, n2, n3, n4, n5, n6⟩ := hn
        rw [e] at h
        have l := monthLen_bounds sm.1 sm.2
        obtain ⟨a1, a2, a3, a4, a5, a6, a7, a8, _⟩ := ih _ sm' r n1 n2 n3 n4 (by omega) h
        exact ⟨a1, a2, a3, a4, a5, a6, by omega, by omega, fun hle => by omega⟩
    · rename_i hle
      simp only [Option.some.injEq] at h
      subst h
      refine ⟨h1, h2, h3, h4, h5, ?_, rfl, ?_, fun _ => rfl⟩ <;> dsimp only <;> omega

/-- the fuel never runs out: `walk` with fuel above the day number returns `none` only by leaving year 9999 -/
theorem walk_fuel : ∀ (f : Nat) (d : Int) (sm : Int × Int),
    1 ≤ sm.1 → sm.1 ≤ 9999 → 1 ≤ sm.2 → sm.2 ≤ 12 → 0 ≤ d → d < f →
    jdn sm.1 sm.2 1 + d - 1 ≤ jdnLast → (walk f d sm).isSome = true := by
  intro f
  induction f with
  | zero => intro d sm _ _ _ _ h0 h _; exfalso; omega
  | succ f ih =>
    intro d sm h1 h2 h3 h4 h0 h5 h6
    simp only [walk]
    split
    · rename_i hgt
      have l := monthLen_bounds sm.1 sm.2
      have hin : ¬ (sm.1 = 9999 ∧ sm.2 = 12) := by
        rintro ⟨e1, e2⟩
        rw [e1, e2] at h6 hgt
        have e3 : jdn 9999 12 1 = jdnLast - 30 := by decide
        have e4 : monthLen 9999 12 = 31 := by decide
        omega
      have hn := monthNext_one sm.1 sm.2 h1 h2 h3 h4
      rw [if_neg hin] at hn
      obtain ⟨sm', e, n1, n2, n3, n4, n5, n6⟩ := hn
      rw [e]
      exact ih _ sm' n1 n2 n3 n4 (by omega) (by omega) (by omega)
    · simp
/-- `next` with its guards resolved: the target month T = birth month + 12·Y + M on the linear month index, the
carries k (which conserve the total and leave hour, minute, second in range), then the walk and `from_ymd_hms` -/
theorem addNext_eq (b : Time) (c : Counts) (hb : Clock.valid b = true)
    (h0 : 0 ≤ c.y) (h1 : 0 ≤ c.mo) (h2 : 0 ≤ c.d) (h3 : 0 ≤ c.h) (h4 : 0 ≤ c.mi)
    (k : Int × Int × Int × Int) (T : Int × Int)
    (hk : carries (b.day.2.2 + c.d) (b.h + c.h) (b.mi + c.mi) b.s = k)
    (hT : ofMonthIdx (12 * (b.day.1 + c.y) + (b.day.2.1 - 1) + c.mo) = T) :
    addNext b c = (if T.1 > 9999 then none
      else (walk (k.1.toNat + 1) k.1 T).bind fun r => mkTime? r k.2.1 k.2.2.1 k.2.2.2) ∧
    1 ≤ T.1 ∧ 1 ≤ T.2 ∧ T.2 ≤ 12 ∧ 1 ≤ k.1 ∧
    86400 * k.1 + 3600 * k.2.1 + 60 * k.2.2.1 + k.2.2.2 =
      86400 * (b.day.2.2 + c.d) + 3600 * (b.h + c.h) + 60 * (b.mi + c.mi) + b.s ∧
    0 ≤ k.2.1 ∧ k.2.1 ≤ 23 ∧ 0 ≤ k.2.2.1 ∧ k.2.2.1 ≤ 59 ∧ 0 ≤ k.2.2.2 ∧ k.2.2.2 ≤ 59 := by
  obtain ⟨vb, b1, b2, b3, b4, b5, b6⟩ := (clock_valid_iff b).1 hb
  obtain ⟨y1, y2, m1, m2, d1, d2⟩ := valid_bounds vb
  have ks := carries_spec (b.day.2.2 + c.d) (b.h + c.h) (b.mi + c.mi) b.s (by omega) (by omega) b5
  rw [hk] at ks
  have hm := ofMonthIdx_month (12 * (b.day.1 + c.y) + (b.day.2.1 - 1) + c.mo)
  rw [hT] at hm
  have hidx : T.1 = (12 * (b.day.1 + c.y) + (b.day.2.1 - 1) + c.mo) / 12 := by rw [← hT]; rfl
  refine ⟨?_, by omega, hm.1, hm.2, by omega, ks.1, ks.2.2⟩
  unfold addNext
  dsimp only
  rw [monthNext_eq (b.day.1 + c.y) b.day.2.1 c.mo (by omega) m1 h1, hk, hT, hidx]
  by_cases h9 : (12 * (b.day.1 + c.y) + (b.day.2.1 - 1) + c.mo) / 12 > 9999
  · rw [if_pos h9]
    split
    · rfl
    · rw [if_pos (Or.inr h9)]
  · rw [if_neg h9, if_neg (by omega), if_neg (by omega)]
    dsimp only
    cases walk _ _ _ <;> rfl

/-- `next` is exact on the LABEL line (first of the month + day label − 1, as if a month's labels were consecutive):
the end lies (d0 − 1) + D days, H hours, MI minutes after the first of the target month there. The label line is
the day line except behind the gap of October 1582 — that is all of D22. -/
theorem addNext_label (b : Time) (c : Counts) (e : Time) (hb : Clock.valid b = true)
    (h0 : 0 ≤ c.y) (h1 : 0 ≤ c.mo) (h2 : 0 ≤ c.d) (h3 : 0 ≤ c.h) (h4 : 0 ≤ c.mi) (he : addNext b c = some e) :
    Clock.valid e = true ∧
    1 ≤ (ofMonthIdx (12 * (b.day.1 + c.y) + (b.day.2.1 - 1) + c.mo)).1 ∧
    (ofMonthIdx (12 * (b.day.1 + c.y) + (b.day.2.1 - 1) + c.mo)).1 ≤ 9999 ∧
    e.day.2.2 ≤ monthLen e.day.1 e.day.2.1 ∧
    secs e + (if e.day.1 = 1582 ∧ e.day.2.1 = 10 ∧ 15 ≤ e.day.2.2 then 864000 else 0) =
      86400 * (jdn (ofMonthIdx (12 * (b.day.1 + c.y) + (b.day.2.1 - 1) + c.mo)).1
                    (ofMonthIdx (12 * (b.day.1 + c.y) + (b.day.2.1 - 1) + c.mo)).2 1 + (b.day.2.2 - 1) + c.d)
        + 3600 * (b.h + c.h) + 60 * (b.mi + c.mi) + b.s := by
  generalize hk : carries (b.day.2.2 + c.d) (b.h + c.h) (b.mi + c.mi) b.s = k
  generalize hT : ofMonthIdx (12 * (b.day.1 + c.y) + (b.day.2.1 - 1) + c.mo) = T
  obtain ⟨eq, hT1, hT2, hT3, k0, ks, -⟩ := addNext_eq b c hb h0 h1 h2 h3 h4 k T hk hT
  rw [eq] at he
  split at he
  · cases he
  · rename_i h9
    obtain ⟨r, hw, he⟩ := Option.bind_eq_some_iff.1 he
    obtain ⟨rfl, ve⟩ := mkTime_valid r k.2.1 k.2.2.1 k.2.2.2 e he
    obtain ⟨_, _, r3, r4, r5, r6, r7, _, _⟩ := walk_spec _ _ _ r hT1 (by omega) hT2 hT3 k0 hw
    have l := monthLen_bounds r.1 r.2.1
    have off := jdn_label r.1 r.2.1 r.2.2 r3 r4 r5 (by omega) ((valid_iff _ _ _).1 ((clock_valid_iff _).1 ve).1).2.2.2.2.2.2
    refine ⟨ve, hT1, by omega, r6, ?_⟩
    unfold secs
    dsimp only at off ⊢
    split at off <;> rename_i hc
    · rw [if_pos hc]; omega
    · rw [if_neg hc]; omega

end Tyme

/-!
`AbstractCulture::index_of` — Rust's truncating `%` followed by `+ n` when the remainder is negative — is the
mathematical remainder.  Every model file carries its own copy of that body; they all unfold to the expression below.
-/
namespace Tyme

theorem tmod_repair (i n : Int) (hn : 0 < n) : (if i.tmod n < 0 then i.tmod n + n else i.tmod n) = i % n := by
  have h1 := Int.emod_nonneg i (Int.ne_of_gt hn)
  have h2 := Int.emod_lt_of_pos i hn
  rw [Int.tmod_eq_emod]
  split <;> split <;> omega

end Tyme

import Tyme.Lemmas.Lunar
/-! Tiling intervals of lunar years: first days increase along the listing, a day lies in exactly one month, and the
guess-and-walk of `SolarDay::get_lunar_day` finds that month. Any ephemeris.
Argument order: a lemma about a tiling interval takes `ht : TilesOn E a b` first, with `E a b` implicit, then `hl`; the
months its hypotheses name are implicit (`ofSolar_spec` takes every argument explicitly). -/
namespace Tyme

/-- what the table fact says about one lunar year of an ephemeris -/
structure TilesYear (E : Eph) (y : Int) : Prop where
  leap_le : E.leap y ≤ 12
  inner : ∀ i, i + 1 < E.cnt y → E.mFirst y (i + 1) = E.mFirst y i + E.mLen y i
  len : ∀ i, i < E.cnt y → E.mLen y i = 29 ∨ E.mLen y i = 30
  junction : E.mFirst (y + 1) 0 = E.mFirst y (E.cnt y - 1) + E.mLen y (E.cnt y - 1)
  yearLen : (353 ≤ E.mFirst (y + 1) 0 - E.mFirst y 0 ∧ E.mFirst (y + 1) 0 - E.mFirst y 0 ≤ 355) ∨
            (383 ≤ E.mFirst (y + 1) 0 - E.mFirst y 0 ∧ E.mFirst (y + 1) 0 - E.mFirst y 0 ≤ 385)

namespace TilesYear
variable {E : Eph} {y : Int}

theorem idx_lt (h : TilesYear E y) {i k : Nat} (hik : i < k) (hk : k < E.cnt y) :
    E.mFirst y i + E.mLen y i ≤ E.mFirst y k := by
  induction k with
  | zero => omega
  | succ k ih =>
    have e := h.inner k hk
    by_cases hi : i = k
    · subst hi; omega
    · have := ih (by omega) (by omega); have := h.len k (by omega); omega

theorem first_le (h : TilesYear E y) {k : Nat} (hk : k < E.cnt y) : E.mFirst y 0 ≤ E.mFirst y k := by
  by_cases h0 : k = 0
  · rw [h0]; exact Int.le_refl _
  · have := h.idx_lt (i := 0) (k := k) (by omega) hk; have := h.len 0 (by omega); omega

theorem end_le (h : TilesYear E y) {k : Nat} (hk : k < E.cnt y) :
    E.mFirst y k + E.mLen y k ≤ E.mFirst (y + 1) 0 := by
  rw [h.junction]
  by_cases hl : k = E.cnt y - 1
  · rw [hl]; exact Int.le_refl _
  · have := h.idx_lt (i := k) (k := E.cnt y - 1) (by omega) (by omega)
    have := h.len (E.cnt y - 1) (by omega); omega

end TilesYear

namespace LWk
open Lunar in
def okOn (E : Eph) (a b : Int) (x : Month) : Prop := WF E x ∧ a ≤ x.y ∧ x.y ≤ b
end LWk

namespace Lunar

def TilesOn (E : Eph) (a b : Int) : Prop := ∀ y, a ≤ y → y ≤ b → TilesYear E y

open LWk (okOn)

variable {E : Eph} {a b : Int}

/-- a month of a tiling interval and its successor on the listing: `len` days apart, 29 or 30 -/
theorem _root_.Tyme.LWk.okOn.step (ht : TilesOn E a b) {x : Month} (hx : okOn E a b x) :
    first E (succM E x) = first E x + len E x ∧ (len E x = 29 ∨ len E x = 30) := by
  have hy := ht x.y hx.2.1 hx.2.2
  unfold succM first len
  refine ⟨?_, hy.len x.idx hx.1.2.2⟩
  split
  · rename_i h; exact hy.inner x.idx h
  · rename_i h
    have : x.idx = E.cnt x.y - 1 := by have := hx.1.2.2; omega
    rw [this]; exact hy.junction

theorem TilesOn.year_le (ht : TilesOn E a b) {p q : Int} (hp : a ≤ p) (hpq : p ≤ q) (hq : q ≤ b + 1) :
    E.mFirst p 0 + 353 * (q - p) ≤ E.mFirst q 0 :=
  gapI_of_step (T := fun y => E.mFirst y 0)
    (fun y h1 h2 => by have := (ht y h1 (by omega)).yearLen; omega) hp hpq hq

/-- ORDER: inside a tiling interval an earlier month ends before a later month — or the first month after the
interval — begins. (Within a year by `TilesYear.idx_lt`; across years through the new-year days.) -/
theorem TilesOn.first_mono (ht : TilesOn E a b) {u v : Month} (hua : a ≤ u.y) (hui : u.idx < E.cnt u.y)
    (hv : (v.y ≤ b ∧ v.idx < E.cnt v.y) ∨ v = ⟨b + 1, 0⟩) (h : Month.lt u v) :
    first E u + len E u ≤ first E v := by
  unfold first len
  have hvy : v.y ≤ b + 1 := by
    rcases hv with h | h
    · omega
    · rw [h]; exact Int.le_refl _
  rcases h with h | ⟨h1, h2⟩
  · have h1 := (ht u.y hua (by omega)).end_le hui
    have h2 := ht.year_le (p := u.y + 1) (q := v.y) (by omega) (by omega) hvy
    have h3 : E.mFirst v.y 0 ≤ E.mFirst v.y v.idx := by
      rcases hv with ⟨hvb, hvi⟩ | hv
      · exact (ht v.y (by omega) hvb).first_le hvi
      · rw [hv]; exact Int.le_refl _
    omega
  · rcases hv with ⟨hvb, hvi⟩ | hv
    · rw [h1]; exact (ht v.y (by omega) hvb).idx_lt h2 hvi
    · rw [hv] at h2; simp at h2

theorem month_unique (ht : TilesOn E a b) {u v : Month} (hu : okOn E a b u) (hv : okOn E a b v) (j : Int)
    (h1 : first E u ≤ j) (h2 : j < first E u + len E u) (h3 : first E v ≤ j) (h4 : j < first E v + len E v) :
    u = v := by
  rcases Month.lt_trichotomy u v with h | h | h
  · have := ht.first_mono hu.2.1 hu.1.2.2 (Or.inl ⟨hv.2.2, hv.1.2.2⟩) h; omega
  · exact h
  · have := ht.first_mono hv.2.1 hv.1.2.2 (Or.inl ⟨hu.2.2, hu.1.2.2⟩) h; omega

theorem month_in_year (ht : TilesOn E a b) {x : Month} (hx : okOn E a b x) :
    E.mFirst x.y 0 ≤ first E x ∧ first E x + len E x ≤ E.mFirst (x.y + 1) 0 :=
  ⟨(ht x.y hx.2.1 hx.2.2).first_le hx.1.2.2, (ht x.y hx.2.1 hx.2.2).end_le hx.1.2.2⟩

theorem interval_bounds (ht : TilesOn E a b) {x : Month} (hx : okOn E a b x) :
    first E ⟨a, 0⟩ ≤ first E x ∧ first E x + len E x ≤ first E ⟨b + 1, 0⟩ := by
  obtain ⟨m1, m2⟩ := month_in_year ht hx
  obtain ⟨_, hxa, hxb⟩ := hx
  have y1 := ht.year_le (Int.le_refl a) hxa (by omega)
  have y2 := ht.year_le (p := x.y + 1) (q := b + 1) (by omega) (by omega) (Int.le_refl _)
  unfold first at *; dsimp only at *; omega

theorem succM_on {x : Month} (hx : okOn E a b x) (hw : WF E (succM E x)) : okOn E a b (succM E x) ∨ succM E x = ⟨b + 1, 0⟩ := by
  obtain ⟨_, hxa, hxb⟩ := hx
  by_cases h : (succM E x).y ≤ b
  · exact Or.inl ⟨hw, by have := succM_year E x; omega, h⟩
  · right
    unfold succM at h ⊢
    split
    · rename_i hh; rw [if_pos hh] at h; exact absurd hxb h
    · rename_i hh; rw [if_neg hh] at h
      have : x.y = b := by dsimp only at h; omega
      rw [this]

theorem pred_on {x : Month} (hw : WF E x) (hs : okOn E a b (succM E x)) : okOn E a b x ∨ succM E x = ⟨a, 0⟩ := by
  obtain ⟨_, hsa, hsb⟩ := hs
  unfold succM at hsa hsb ⊢
  split
  · rename_i hh; rw [if_pos hh] at hsa hsb; exact Or.inl ⟨hw, hsa, hsb⟩
  · rename_i hh; rw [if_neg hh] at hsa hsb
    dsimp only at hsa hsb
    by_cases h : a ≤ x.y
    · exact Or.inl ⟨hw, h, by omega⟩
    · right
      have : x.y + 1 = a := by omega
      rw [this]

theorem step_back (ht : TilesOn E a b) (hl : ∀ y, E.leap y ≤ 12) {x x' : Month} (hx : okOn E a b x)
    (hn : next E x (-1) = some x') (hlo : first E ⟨a, 0⟩ < first E x) :
    okOn E a b x' ∧ first E x = first E x' + len E x' ∧ (len E x' = 29 ∨ len E x' = 30) := by
  obtain ⟨w', hs⟩ := next_neg_one_inv E hl hx.1 hn
  rw [hs] at hx hlo
  rcases pred_on w' hx with h | h
  · rw [hs]; exact ⟨h, h.step ht⟩
  · rw [h] at hlo; omega

theorem step_fwd (ht : TilesOn E a b) (hl : ∀ y, E.leap y ≤ 12) {x x' : Month} (hx : okOn E a b x)
    (hn : next E x 1 = some x') (hhi : first E x + len E x < first E ⟨b + 1, 0⟩) :
    okOn E a b x' ∧ first E x' = first E x + len E x := by
  obtain ⟨w', hs⟩ := next_one_inv E hl hx.1 hn
  have := (hx.step ht).1
  rw [hs] at w' ⊢
  rcases succM_on hx w' with h | h
  · exact ⟨h, this⟩
  · rw [h] at this; omega

theorem walkBack_spec (ht : TilesOn E a b) (hl : ∀ y, E.leap y ≤ 12) {j : Int} (hlo : first E ⟨a, 0⟩ ≤ j) :
    ∀ {f : Nat} {x : Month} {days : Int} {x' : Month} {d' : Int}, okOn E a b x →
      days = j - first E x → walkBack E f x days = some (x', d') →
      okOn E a b x' ∧ d' = j - first E x' ∧ 0 ≤ d' := by
  intro f
  induction f with
  | zero => intro x days x' d' _ _ h; simp [walkBack] at h
  | succ f ih =>
    intro x days x' d' hx hd h
    simp only [walkBack] at h
    split at h
    · split at h
      · simp at h
      · rename_i x1 hn
        obtain ⟨hx1, e, _⟩ := step_back ht hl hx hn (by omega)
        exact ih hx1 (by omega) h
    · cases h
      exact ⟨hx, hd, by omega⟩

theorem walkFwd_spec (ht : TilesOn E a b) (hl : ∀ y, E.leap y ≤ 12) {j : Int} (hhi : j < first E ⟨b + 1, 0⟩) :
    ∀ {f : Nat} {x : Month} {days : Int} {x' : Month} {d' : Int}, okOn E a b x →
      days = j - first E x → 0 ≤ days → walkFwd E f x days = some (x', d') →
      okOn E a b x' ∧ d' = j - first E x' ∧ 0 ≤ d' ∧ d' < len E x' := by
  intro f
  induction f with
  | zero => intro x days x' d' _ _ _ h; simp [walkFwd] at h
  | succ f ih =>
    intro x days x' d' hx hd h0 h
    simp only [walkFwd] at h
    split at h
    · split at h
      · simp at h
      · rename_i x1 hn
        obtain ⟨hx1, e⟩ := step_fwd ht hl hx hn (by omega)
        exact ih hx1 (by omega) (by omega) h
    · cases h
      exact ⟨hx, hd, h0, by omega⟩

/-- `get_lunar_day`: whatever it returns is the month containing the day, with the right day number -/
theorem ofSolar_spec (E : Eph) (hl : ∀ y, E.leap y ≤ 12) (a b : Int) (ht : TilesOn E a b) (Y M D : Int)
    (hY : a ≤ Y) (hY2 : Y ≤ b) (hlo : first E ⟨a, 0⟩ ≤ jdn Y M D) (hhi : jdn Y M D < first E ⟨b + 1, 0⟩)
    (r : Month × Int) (h : ofSolar E Y M D = some r) :
    WF E r.1 ∧ a ≤ r.1.y ∧ r.1.y ≤ b ∧ first E r.1 + r.2 - 1 = jdn Y M D ∧ 1 ≤ r.2 ∧ r.2 ≤ len E r.1 := by
  unfold ofSolar at h
  cases h0 : fromYm E Y M with
  | none => simp [h0] at h
  | some x0 =>
    obtain ⟨w0, y0⟩ := fromYm_WF E hl h0
    simp only [h0] at h
    split at h
    · simp at h
    · cases hb1 : walkBack E WALK_FUEL x0 (jdn Y M D - first E x0) with
      | none => simp [hb1] at h
      | some p1 =>
        obtain ⟨x1, d1⟩ := p1
        obtain ⟨o1, e1, n1⟩ := walkBack_spec ht hl hlo ⟨w0, by omega, by omega⟩ rfl hb1
        simp only [hb1] at h
        cases hf2 : walkFwd E WALK_FUEL x1 d1 with
        | none => simp [hf2] at h
        | some p2 =>
          obtain ⟨x2, d2⟩ := p2
          obtain ⟨o2, e2, n2, l2⟩ := walkFwd_spec ht hl hhi o1 e1 n1 hf2
          simp only [hf2] at h
          split at h
          · simp at h
          · cases h
            dsimp only at *
            exact ⟨o2.1, o2.2.1, o2.2.2, by omega, by omega, by omega⟩

/-- chronological order of (month, day) pairs -/
def lunarLt (E : Eph) (p q : Month × Int) : Prop := gpos E p.1 < gpos E q.1 ∨ (p.1 = q.1 ∧ p.2 < q.2)

theorem lunarLt_iff_jdn (ht : TilesOn E a b) {x x' : Month} {k k' : Int} (hx : okOn E a b x) (hx' : okOn E a b x')
    (hk1 : 1 ≤ k) (hk2 : k ≤ len E x) (hk1' : 1 ≤ k') (hk2' : k' ≤ len E x') :
    lunarLt E (x, k) (x', k') ↔ first E x + k - 1 < first E x' + k' - 1 := by
  unfold lunarLt
  dsimp only
  rw [gpos_lt_iff E hx.1 hx'.1]
  rcases Month.lt_trichotomy x x' with h | h | h
  · have := ht.first_mono hx.2.1 hx.1.2.2 (Or.inl ⟨hx'.2.2, hx'.1.2.2⟩) h
    exact ⟨fun _ => by omega, fun _ => Or.inl h⟩
  · subst h
    have hn : ¬ Month.lt x x := by unfold Month.lt; omega
    exact ⟨fun h' => by rcases h' with h' | h'; exact absurd h' hn; omega, fun h' => Or.inr ⟨rfl, by omega⟩⟩
  · have := ht.first_mono hx'.2.1 hx'.1.2.2 (Or.inl ⟨hx.2.2, hx.1.2.2⟩) h
    have hn : ¬ Month.lt x x' := by unfold Month.lt at h ⊢; omega
    have hne : ¬ x = x' := by rintro e; rw [e] at h; unfold Month.lt at h; omega
    exact ⟨fun h' => by rcases h' with h' | h'; exact absurd h' hn; exact absurd h'.1 hne, fun _ => by omega⟩

end Lunar
end Tyme

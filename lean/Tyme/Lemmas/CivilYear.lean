import Tyme.Thm.C01
/-! The civil year of a day number: January firsts are 355..366 days apart (`jdn_year_succ`), a date lies between the
January firsts around it (`jdn_year_bounds`), and so the bracket `jdn G 1 1 ≤ j < jdn (G + 1) 1 1` determines the year.
Everything that places a day in a year (terms, lunar new years, the 23:00 slot of the previous day) goes through these. -/
namespace Tyme

theorem jan1_step (y : Int) : jdn y 1 1 + 355 ≤ jdn (y + 1) 1 1 ∧ jdn (y + 1) 1 1 ≤ jdn y 1 1 + 366 := by
  have := yearLen_bounds y
  rw [jdn_year_succ]; omega

theorem jan1_strict (a b : Int) (hab : a < b) : jdn a 1 1 + 355 ≤ jdn b 1 1 := by
  have := jdn_jan1_gap a b (by omega)
  omega

/-- January firsts reflect the order of years -/
theorem jan1_lt {a b : Int} (h : jdn a 1 1 < jdn b 1 1) : a < b :=
  Int.not_le.1 fun c => by have := jdn_jan1_le b a c; omega

theorem year_ge (Y M D G : Int) (hv : Civil.valid Y M D = true) (h : jdn G 1 1 ≤ jdn Y M D) : G ≤ Y := by
  have b := (jdn_year_bounds Y M D hv).2
  have := jan1_lt (a := G) (b := Y + 1) (by omega)
  omega

theorem year_le (Y M D G : Int) (hv : Civil.valid Y M D = true) (h : jdn Y M D < jdn (G + 1) 1 1) : Y ≤ G := by
  have b := (jdn_year_bounds Y M D hv).1
  have := jan1_lt (a := Y) (b := G + 1) (by omega)
  omega

/-- a date whose day number is that of (Y, M, D) or one less lies in year Y or Y − 1 — in Y itself unless (Y, M, D) is
January 1 -/
theorem year_near (Y M D y' m' d' : Int) (hv : Civil.valid Y M D = true) (dv : Civil.valid y' m' d' = true)
    (h1 : jdn Y M D - 1 ≤ jdn y' m' d') (h2 : jdn y' m' d' ≤ jdn Y M D) :
    Y - 1 ≤ y' ∧ y' ≤ Y ∧ (jdn Y 1 1 < jdn Y M D → y' = Y) := by
  obtain ⟨yb1, yb2⟩ := jdn_year_bounds Y M D hv
  have := jan1_step (Y - 1)
  rw [Int.sub_add_cancel] at this
  exact ⟨year_ge y' m' d' (Y - 1) dv (by omega), year_le y' m' d' Y dv (by omega),
    fun hlt => Int.le_antisymm (year_le y' m' d' Y dv (by omega)) (year_ge y' m' d' Y dv (by omega))⟩

theorem after_jan1 (Y M D : Int) (hv : Civil.valid Y M D = true) (hne : ¬ (M = 1 ∧ D = 1)) : jdn Y 1 1 < jdn Y M D := by
  obtain ⟨h1, h2, h3, h4, h5, h6, h7⟩ := (valid_iff Y M D).1 hv
  have hl : Civil.lt (Y, 1, 1) (Y, M, D) := by
    unfold Civil.lt; dsimp only; omega
  exact (C01_lt_iff (Y, 1, 1) (Y, M, D) (valid_first Y 1 h1 h2 (by omega) (by omega)) hv).1 hl

theorem jdn_9999 : jdn 9999 1 1 + 364 = jdnLast := by decide

/-- every year 1..9999 lies inside the range of day numbers (the last year has 365 days) -/
theorem jan1_range (y : Int) (h1 : 1 ≤ y) (h2 : y ≤ 9999) : jdnFirst ≤ jdn y 1 1 ∧ jdn y 1 1 + 364 ≤ jdnLast := by
  have a := jdn_jan1_le 1 y h1
  have b := jdn_jan1_le y 9999 h2
  have := jdn_0001_01_01
  have := jdn_9999
  omega

/-- the civil date of a day number lying between two January firsts has its year between them -/
theorem jdn_year_range (j ya yb : Int) (hya : 1 ≤ ya) (hab : ya ≤ yb) (hyb : yb ≤ 9998) (h1 : jdn ya 1 1 ≤ j) (h2 : j < jdn (yb + 1) 1 1) :
    Civil.validT (ofJdn j) = true ∧ jdnT (ofJdn j) = j ∧ ya ≤ (ofJdn j).1 ∧ (ofJdn j).1 ≤ yb := by
  have r1 := (jan1_range ya hya (by omega)).1
  have r2 := (jan1_range (yb + 1) (by omega) (by omega)).2
  obtain ⟨hv, hj⟩ := C01_jdn_ofJdn j (by omega) (by omega)
  have hjj : jdn (ofJdn j).1 (ofJdn j).2.1 (ofJdn j).2.2 = j := hj
  exact ⟨hv, hj, year_ge _ _ _ ya hv (by omega), year_le _ _ _ yb hv (by omega)⟩

end Tyme

/-
Bit-packed tables: a table is a list of chunks `(count, value)`; chunk value holds `count`
records of `w` bits each, least significant first. `records` is the specification-level flat list
(used by the compiled driver and in theorem statements); `foldAll`, `adjChunks` and `allChunks` walk the same
records sequentially without building the list; the `adj` walk is what the kernel evaluates (`decide +kernel`).
Core Lean only.
-/
namespace Tyme.Packed

/-- the `n` `w`-bit records of one packed value, least significant first -/
def unpack (w : Nat) : Nat → Nat → List Nat
  | 0, _ => []
  | n+1, t => t % 2 ^ w :: unpack w n (t / 2 ^ w)

def records (w : Nat) : List (Nat × Nat) → List Nat
  | [] => []
  | c :: cs => unpack w c.1 c.2 ++ records w cs

def foldChunk {σ : Type} (w : Nat) (f : σ → Nat → σ) : Nat → Nat → σ → σ
  | 0, _, s => s
  | n+1, t, s => foldChunk w f n (t / 2 ^ w) (f s (t % 2 ^ w))

def foldAll {σ : Type} (w : Nat) (f : σ → Nat → σ) : List (Nat × Nat) → σ → σ
  | [], s => s
  | c :: cs, s => foldAll w f cs (foldChunk w f c.1 c.2 s)

theorem foldChunk_eq {σ : Type} (w : Nat) (f : σ → Nat → σ) :
    ∀ (n t : Nat) (s : σ), foldChunk w f n t s = (unpack w n t).foldl f s := by
  intro n
  induction n with
  | zero => intro t s; rfl
  | succ n ih => intro t s; simp only [foldChunk, unpack, List.foldl_cons]; exact ih _ _

theorem foldAll_eq {σ : Type} (w : Nat) (f : σ → Nat → σ) :
    ∀ (cs : List (Nat × Nat)) (s : σ), foldAll w f cs s = (records w cs).foldl f s := by
  intro cs
  induction cs with
  | nil => intro s; rfl
  | cons c cs ih =>
    intro s
    simp only [foldAll, records, List.foldl_append, foldChunk_eq]
    exact ih _

/-! ### adjacent pairs, direct recursion (fast in the kernel: no lazily growing state) -/

/-- walk the `n` records of chunk value `t`; `i` = index of the record about to be read, `prev` = the
record before it; returns the last record read, or `none` if a pair fails -/
def adjChunk (w : Nat) (p : Nat → Nat → Nat → Bool) : Nat → Nat → Nat → Nat → Option Nat
  | 0, _, _, prev => some prev
  | n+1, t, i, prev => if p i prev (t % 2 ^ w) then adjChunk w p n (t / 2 ^ w) (i + 1) (t % 2 ^ w) else none

def adjChunks (w : Nat) (p : Nat → Nat → Nat → Bool) : List (Nat × Nat) → Nat → Nat → Option Nat
  | [], _, prev => some prev
  | c :: cs, i, prev =>
    match adjChunk w p c.1 c.2 i prev with
    | none => none
    | some last => adjChunks w p cs (i + c.1) last

def adjList (p : Nat → Nat → Nat → Bool) : List Nat → Nat → Nat → Option Nat
  | [], _, prev => some prev
  | x :: xs, i, prev => if p i prev x then adjList p xs (i + 1) x else none

theorem unpack_length (w : Nat) : ∀ n t, (unpack w n t).length = n := by
  intro n; induction n with
  | zero => intro t; rfl
  | succ n ih => intro t; simp [unpack, ih]

theorem adjChunk_eq (w : Nat) (p : Nat → Nat → Nat → Bool) :
    ∀ n t i prev, adjChunk w p n t i prev = adjList p (unpack w n t) i prev := by
  intro n; induction n with
  | zero => intro t i prev; rfl
  | succ n ih => intro t i prev; simp only [adjChunk, unpack, adjList]; split <;> simp [ih]

theorem adjList_append (p : Nat → Nat → Nat → Bool) :
    ∀ (l1 l2 : List Nat) (i prev : Nat),
      adjList p (l1 ++ l2) i prev =
        match adjList p l1 i prev with
        | none => none
        | some last => adjList p l2 (i + l1.length) last := by
  intro l1; induction l1 with
  | nil => intro l2 i prev; simp [adjList]
  | cons x xs ih =>
    intro l2 i prev
    simp only [List.cons_append, adjList]
    split
    · rw [ih]; simp [Nat.add_assoc, Nat.add_comm 1]
    · rfl

theorem adjChunks_eq (w : Nat) (p : Nat → Nat → Nat → Bool) :
    ∀ cs i prev, adjChunks w p cs i prev = adjList p (records w cs) i prev := by
  intro cs; induction cs with
  | nil => intro i prev; rfl
  | cons c cs ih =>
    intro i prev
    simp only [adjChunks, records, adjList_append, adjChunk_eq, unpack_length]
    split <;> simp_all

/-- what a completed walk has checked: `p` at every record of the list, each with the record before it
(`prev` before the first) -/
theorem adjList_spec (p : Nat → Nat → Nat → Bool) :
    ∀ (l : List Nat) (i prev : Nat), (adjList p l i prev).isSome = true →
      ∀ k (h : k < l.length), p (i + k) ((prev :: l)[k]'(Nat.lt_succ_of_lt h)) (l[k]'h) = true := by
  intro l; induction l with
  | nil => intro i prev _ k hk; exact absurd hk (Nat.not_lt_zero _)
  | cons x xs ih =>
    intro i prev h k hk
    simp only [adjList] at h
    split at h
    · rename_i hp
      cases k with
      | zero => exact hp
      | succ k =>
        have := ih (i + 1) x h k (Nat.lt_of_succ_lt_succ hk)
        rw [show i + 1 + k = i + (k + 1) by omega] at this
        exact this
    · simp at h

/-- every adjacent pair of records satisfies `p k r_k r_{k+1}` (k = index of the first of the pair);
kernel-evaluated form -/
def adjRec (w : Nat) (p : Nat → Nat → Nat → Bool) (cs : List (Nat × Nat)) : Bool :=
  (adjChunks w (fun i a b => i == 0 || p (i - 1) a b) cs 0 0).isSome

def allChunk (w : Nat) (p : Nat → Nat → Bool) : Nat → Nat → Nat → Bool
  | 0, _, _ => true
  | n+1, t, i => p i (t % 2 ^ w) && allChunk w p n (t / 2 ^ w) (i + 1)

def allChunks (w : Nat) (p : Nat → Nat → Bool) : List (Nat × Nat) → Nat → Bool
  | [], _ => true
  | c :: cs, i => allChunk w p c.1 c.2 i && allChunks w p cs (i + c.1)

/-- an `all` walk is an `adj` walk whose predicate ignores the record before: the lemmas about `adjList` serve both -/
theorem allChunk_adj (w : Nat) (p : Nat → Nat → Bool) :
    ∀ n t i prev, allChunk w p n t i = (adjChunk w (fun i _ b => p i b) n t i prev).isSome := by
  intro n; induction n with
  | zero => intro t i prev; rfl
  | succ n ih =>
    intro t i prev
    simp only [allChunk, adjChunk]
    split <;> rename_i hp
    · rw [hp, Bool.true_and]; exact ih _ _ _
    · rw [Bool.not_eq_true] at hp; rw [hp]; rfl

theorem allChunks_adj (w : Nat) (p : Nat → Nat → Bool) :
    ∀ cs i prev, allChunks w p cs i = (adjChunks w (fun i _ b => p i b) cs i prev).isSome := by
  intro cs; induction cs with
  | nil => intro i prev; rfl
  | cons c cs ih =>
    intro i prev
    simp only [allChunks, adjChunks]
    rw [allChunk_adj w p c.1 c.2 i prev]
    cases adjChunk w (fun i _ b => p i b) c.1 c.2 i prev with
    | none => rfl
    | some last => exact ih _ last

/-- every record satisfies `p index record`; kernel-evaluated form -/
def allRec (w : Nat) (p : Nat → Nat → Bool) (cs : List (Nat × Nat)) : Bool := allChunks w p cs 0

/-! ### the same at an index, in the form `getD _ 0` in which the ephemeris reads its tables -/

theorem allRec_getD {w : Nat} {p : Nat → Nat → Bool} {cs : List (Nat × Nat)} (h : allRec w p cs = true)
    (k : Nat) (hk : k < (records w cs).length) : p k ((records w cs).getD k 0) = true := by
  unfold allRec at h
  rw [allChunks_adj w p cs 0 0, adjChunks_eq] at h
  rw [← List.getElem_eq_getD (h := hk) 0]
  simpa using adjList_spec _ _ 0 0 h k hk

theorem adjRec_getD {w : Nat} {p : Nat → Nat → Nat → Bool} {cs : List (Nat × Nat)} (h : adjRec w p cs = true)
    (k : Nat) (hk : k + 1 < (records w cs).length) :
    p k ((records w cs).getD k 0) ((records w cs).getD (k + 1) 0) = true := by
  unfold adjRec at h
  rw [adjChunks_eq] at h
  rw [← List.getElem_eq_getD (h := hk) 0, ← List.getElem_eq_getD (h := Nat.lt_of_succ_lt hk) 0]
  simpa using adjList_spec _ _ 0 0 h (k + 1) hk

/-! ### gluing facts proved part by part (so that Lake can check the parts in parallel) -/

theorem records_append (w : Nat) : ∀ (A B : List (Nat × Nat)), records w (A ++ B) = records w A ++ records w B := by
  intro A; induction A with
  | nil => intro B; rfl
  | cons c cs ih => intro B; simp [records, ih]

theorem records_length (w : Nat) : ∀ cs : List (Nat × Nat), (records w cs).length = (cs.map (·.1)).sum := by
  intro cs; induction cs with
  | nil => rfl
  | cons c cs ih => simp [records, unpack_length, ih]

theorem adjChunks_append (w : Nat) (p : Nat → Nat → Nat → Bool) (A B : List (Nat × Nat)) (i prev : Nat) :
    adjChunks w p (A ++ B) i prev =
      match adjChunks w p A i prev with
      | none => none
      | some last => adjChunks w p B (i + (records w A).length) last := by
  simp only [adjChunks_eq, records_append, adjList_append]

theorem allChunks_append (w : Nat) (p : Nat → Nat → Bool) (A B : List (Nat × Nat)) (i : Nat) :
    allChunks w p (A ++ B) i = (allChunks w p A i && allChunks w p B (i + (records w A).length)) := by
  rw [allChunks_adj w p (A ++ B) i 0, adjChunks_append, allChunks_adj w p A i 0]
  cases adjChunks w (fun i _ b => p i b) A i 0 with
  | none => rfl
  | some last => exact (allChunks_adj w p B _ last).symm

/-- the shifted predicate used by `adjRec` -/
def adjP (p : Nat → Nat → Nat → Bool) : Nat → Nat → Nat → Bool := fun i a b => i == 0 || p (i - 1) a b

/-! ### one walk for several predicates

A table is walked once with the conjunction `f` of everything that is asked of it; each single fact, in the
`adjRec` / `allRec` form, follows because `f` implies its predicate. -/

theorem adjList_mono {f g : Nat → Nat → Nat → Bool} (h : ∀ i a b, f i a b = true → g i a b = true) :
    ∀ (l : List Nat) (i prev : Nat), (adjList f l i prev).isSome = true → (adjList g l i prev).isSome = true := by
  intro l; induction l with
  | nil => intro i prev _; rfl
  | cons x xs ih =>
    intro i prev hw
    simp only [adjList] at hw ⊢
    split at hw
    · rename_i hf; rw [if_pos (h _ _ _ hf)]; exact ih _ _ hw
    · simp at hw

theorem adjRec_of_walk {w : Nat} {f p : Nat → Nat → Nat → Bool} {cs : List (Nat × Nat)}
    (hw : (adjChunks w f cs 0 0).isSome = true) (h : ∀ i a b, f i a b = true → adjP p i a b = true) :
    adjRec w p cs = true := by
  rw [adjChunks_eq] at hw
  show (adjChunks w (adjP p) cs 0 0).isSome = true
  rw [adjChunks_eq]; exact adjList_mono h _ _ _ hw

theorem allRec_of_walk {w : Nat} {f : Nat → Nat → Nat → Bool} {q : Nat → Nat → Bool} {cs : List (Nat × Nat)}
    (hw : (adjChunks w f cs 0 0).isSome = true) (h : ∀ i a b, f i a b = true → q i b = true) :
    allRec w q cs = true := by
  rw [adjChunks_eq] at hw
  unfold allRec
  rw [allChunks_adj w q cs 0 0, adjChunks_eq]; exact adjList_mono h _ _ _ hw

/-- last record of a part: the exit state of a walk over it, and the entry state of the walk over the next part -/
def lastRec (w : Nat) (cs : List (Nat × Nat)) : Nat :=
  match cs.getLast? with
  | some c => c.2 / 2 ^ (w * (c.1 - 1)) % 2 ^ w
  | none => 0

/-! ### reading one record

`(records w cs).getD g 0` unpacks the `g` records before the one asked for; `recAt` reads it out of its chunk. Kernel
evaluations of a model on a packed table (`Facts/Quick.lean`) go through `recAt`. -/

def recAt (w : Nat) : List (Nat × Nat) → Nat → Nat
  | [], _ => 0
  | c :: cs, g => if g < c.1 then c.2 / 2 ^ (w * g) % 2 ^ w else recAt w cs (g - c.1)

theorem unpack_getD (w : Nat) :
    ∀ n t g, (unpack w n t).getD g 0 = if g < n then t / 2 ^ (w * g) % 2 ^ w else 0 := by
  intro n; induction n with
  | zero => intro t g; simp [unpack]
  | succ n ih =>
    intro t g
    cases g with
    | zero => simp [unpack]
    | succ g =>
      simp only [unpack, List.getD_cons_succ, ih, Nat.add_lt_add_iff_right]
      rw [Nat.mul_succ, Nat.pow_add, Nat.mul_comm (2 ^ (w * g)), Nat.div_div_eq_div_mul]

theorem records_getD (w : Nat) : ∀ cs g, (records w cs).getD g 0 = recAt w cs g := by
  intro cs; induction cs with
  | nil => intro g; simp [records, recAt]
  | cons c cs ih =>
    intro g
    simp only [records, recAt, List.getD_eq_getElem?_getD, List.getElem?_append, unpack_length]
    split
    · rw [← List.getD_eq_getElem?_getD, unpack_getD, if_pos ‹_›]
    · rw [← List.getD_eq_getElem?_getD, ih]

end Tyme.Packed

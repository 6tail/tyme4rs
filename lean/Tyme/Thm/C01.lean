import Tyme.Lemmas.Jd
/-!
C01 — civil calendar ⇔ day count, for every date 0001-01-01 .. 9999-12-31.
Every obligation is named `C01_*` (helpers live in `Tyme/Lemmas/Jd.lean`); the unprefixed lemmas here are what later
files use of the model beyond them: the range of `ofJdn` (`ofJdn_after`, `ofJdn_before`, `ofJdn_ok_iff`, `ofJdn_guard_iff`),
`SolarDay::next` (`dayNext_iff`, `dayNext_iff_valid`, `dayNext_some`), `dayAfter_eq_before`, `dayBefore_iff_lt`.

Spec: `Tyme.Civil` (valid / next / lt / daysIn / daysInYear / leap), `Civil.iter n` = n-fold successor.
Model: `jdn`, `ofJdn`, `solarDayOk`, `dayNext`, `daySub`, `dayBefore`, `dayAfter`, `monthLen`, `yearLen`,
`isLeap`, `dayIndexInYear` (Tyme/Model/Jd.lean), tied to src/tyme/{jd,solar}.rs by the correspondence run.
-/
namespace Tyme
open Civil

/-- Acceptance: `SolarDay::new` accepts exactly the dates that exist — for ALL integer triples
(month 0/13, day 0/32, years ≤ 0 or ≥ 10000, the ten dropped days of October 1582 …). -/
theorem C01_accept_iff (y m d : Int) : solarDayOk y m d = Civil.valid y m d := by
  rw [Bool.eq_iff_iff, valid_iff, solarDayOk_iff]
  by_cases hy : 1 ≤ y ∧ y ≤ 9999
  · by_cases hx : y = 1582 ∧ m = 10
    · obtain ⟨rfl, rfl⟩ := hx
      have : Civil.lastDay 1582 10 = 31 := by decide
      simp only [and_self, if_true, this, true_and]; omega
    · rw [if_neg hx, monthLen_eq_lastDay y m hy.1 hy.2 hx]
      constructor
      · rintro ⟨h1, h2, h3, h4, h5, h6⟩; exact ⟨h1, h2, h3, h4, h5, h6, fun h => hx ⟨h.1, h.2.1⟩⟩
      · rintro ⟨h1, h2, h3, h4, h5, h6, -⟩; exact ⟨h1, h2, h3, h4, h5, h6⟩
  · constructor <;> (intro h; exact absurd ⟨h.1, h.2.1⟩ hy)

/-- The day count grows by exactly one per civil day (month ends, year ends, leap days, the 1582 cut-over). -/
theorem C01_jdn_next (y m d : Int) (hv : Civil.valid y m d = true) (hne : ¬ (y = 9999 ∧ m = 12 ∧ d = 31)) :
    jdnT (Civil.next y m d) = jdn y m d + 1 := jdn_next y m d hv hne

/-- Every existing date maps back to itself. -/
theorem C01_ofJdn_jdn (y m d : Int) (hv : Civil.valid y m d = true) : ofJdn (jdn y m d) = (y, m, d) :=
  ofJdn_jdn y m d hv

/-- Every day number of the range maps to an existing date and back to itself. -/
theorem C01_jdn_ofJdn (j : Int) (h1 : jdnFirst ≤ j) (h2 : j ≤ jdnLast) :
    Civil.validT (ofJdn j) = true ∧ jdnT (ofJdn j) = j := by
  obtain ⟨x, hv, rfl⟩ := jdn_surj j h1 h2
  rw [ofJdn_jdnT hv]
  exact ⟨hv, rfl⟩

/-- outside the range `ofJdn` yields a year that `SolarYear::new` refuses -/
theorem ofJdn_after (j : Int) (h : jdnLast < j) : 10000 ≤ (ofJdn j).1 := by
  -- each floor quotient of `ofJdn` is named and bounded in turn; the month quotient matters only in the boundary year
  -- f = 14715, where b ≥ 14 selects yr − 4715
  unfold jdnLast at h
  unfold ofJdn
  have hg : j ≥ 2299161 := by omega
  simp only [hg, if_true]
  generalize hc : (4 * j - 7468865) / 146097 = c
  generalize hd : c / 4 = d
  have c95 : 95 ≤ c := by omega
  have cd : 72 ≤ c - d := by omega
  generalize hf : (20 * (j + 1 + c - d + 1524) - 2442) / 7305 = f
  have f1 : 14715 ≤ f := by omega
  generalize he : 1461 * f / 4 = e
  generalize hb : 1000 * (j + 1 + c - d + 1524 - e) / 30601 = b
  by_cases hf2 : f = 14715
  · subst hf2
    have : e = 5374653 := by omega
    subst this
    have : 14 ≤ b := by omega
    split <;> dsimp only <;> omega
  · split <;> dsimp only <;> omega

theorem ofJdn_before (j : Int) (h : j < jdnFirst) : (ofJdn j).1 ≤ 0 := by
  unfold jdnFirst at h
  unfold ofJdn
  have hg : ¬ j ≥ 2299161 := by omega
  simp only [hg, if_false]
  generalize hf : (20 * (j + 1524) - 2442) / 7305 = f
  have f1 : f ≤ 4716 := by omega
  generalize he : 1461 * f / 4 = e
  generalize hb : 1000 * (j + 1524 - e) / 30601 = b
  by_cases hf2 : f = 4716
  · subst hf2
    have : e = 1722519 := by omega
    subst this
    have : b ≤ 13 := by omega
    split <;> dsimp only <;> omega
  · split <;> dsimp only <;> omega

/-- `SolarDay::new` accepts the date of day number j exactly when j lies in the range -/
theorem ofJdn_ok_iff (j : Int) :
    solarDayOk (ofJdn j).1 (ofJdn j).2.1 (ofJdn j).2.2 = true ↔ (jdnFirst ≤ j ∧ j ≤ jdnLast) := by
  constructor
  · intro h
    obtain ⟨h1, h2, -⟩ := (solarDayOk_iff _ _ _).1 h
    exact ⟨Int.not_lt.1 fun hh => by have := ofJdn_before j hh; omega,
      Int.not_lt.1 fun hh => by have := ofJdn_after j hh; omega⟩
  · intro h
    rw [C01_accept_iff]; exact (C01_jdn_ofJdn j h.1 h.2).1

/-- the date of day number j through `SolarDay::new`: the expression that `dayNext`, `Lunar.daySolar` and `scmFirstDay` share -/
theorem ofJdn_guard_iff (j : Int) (r : Int × Int × Int) :
    (if solarDayOk (ofJdn j).1 (ofJdn j).2.1 (ofJdn j).2.2 = true then some (ofJdn j) else none) = some r ↔
      (jdnFirst ≤ j ∧ j ≤ jdnLast ∧ r = ofJdn j) := by
  rw [← and_assoc, ← ofJdn_ok_iff]
  split <;> rename_i hok
  · simp only [Option.some.injEq, hok, true_and, eq_comm]
  · simp only [reduceCtorEq, hok, false_and]

/-- "r is the date of day number j, and j lies in the range" says that r exists and has day number j -/
theorem eq_ofJdn_iff (j : Int) (r : Int × Int × Int) :
    (jdnFirst ≤ j ∧ j ≤ jdnLast ∧ r = ofJdn j) ↔ (Civil.validT r = true ∧ jdnT r = j) :=
  ⟨fun ⟨h1, h2, e⟩ => e ▸ C01_jdn_ofJdn j h1 h2,
   fun ⟨v, e⟩ => e ▸ ⟨jdn_ge_first _ _ _ v, jdn_le_last _ _ _ v, (ofJdn_jdnT v).symm⟩⟩

/-- `SolarDay::next`: accepted exactly when the target day number lies in the range, and then it is that day -/
theorem dayNext_iff (a r : Int × Int × Int) (k : Int) :
    dayNext a k = some r ↔ (jdnFirst ≤ jdnT a + k ∧ jdnT a + k ≤ jdnLast ∧ r = ofJdn (jdnT a + k)) :=
  ofJdn_guard_iff (jdnT a + k) r

/-- the same in the shape of `C12_next_iff` and `Lunar.next_iff`: r is THE existing date k days from a (any a) -/
theorem dayNext_iff_valid (a r : Int × Int × Int) (k : Int) :
    dayNext a k = some r ↔ (Civil.validT r = true ∧ jdnT r = jdnT a + k) :=
  (dayNext_iff a r k).trans (eq_ofJdn_iff _ r)

theorem dayNext_some (a : Int × Int × Int) (k : Int) (h1 : jdnFirst ≤ jdnT a + k) (h2 : jdnT a + k ≤ jdnLast) :
    dayNext a k = some (ofJdn (jdnT a + k)) ∧ Civil.validT (ofJdn (jdnT a + k)) = true ∧
      jdnT (ofJdn (jdnT a + k)) = jdnT a + k :=
  ⟨(dayNext_iff a _ k).2 ⟨h1, h2, rfl⟩, C01_jdn_ofJdn _ h1 h2⟩

/-- Chronological order of existing dates is the order of their day numbers. -/
theorem C01_lt_iff (a b : Int × Int × Int) (ha : Civil.validT a = true) (hb : Civil.validT b = true) :
    Civil.lt a b ↔ jdnT a < jdnT b := by
  -- b is reached from a by jdnT b − jdnT a successor steps (`iter_spec`, `jdn_inj`), and every step is `Civil.lt`
  have key : ∀ a b : Int × Int × Int, Civil.validT a = true → Civil.validT b = true →
      jdnT a < jdnT b → Civil.lt a b := by
    intro a b ha hb h
    have hbl : jdnT b ≤ jdnLast := jdn_le_last b.1 b.2.1 b.2.2 hb
    have := iter_spec (jdnT b - jdnT a).toNat a ha (by omega)
    obtain ⟨i1, i2, i3⟩ := this
    have e : Civil.iter (jdnT b - jdnT a).toNat a = b := jdn_inj _ _ i1 hb (by rw [i2]; omega)
    rw [e] at i3
    exact i3 (by omega)
  constructor
  · intro h
    rcases Int.lt_trichotomy (jdnT a) (jdnT b) with h' | h' | h'
    · exact h'
    · have := jdn_inj a b ha hb h'; subst this; exact absurd h (lt_irrefl' a)
    · exact absurd (lt_trans' h (key b a hb ha h')) (lt_irrefl' a)
  · exact key a b ha hb

theorem dayAfter_eq_before (a b : Int × Int × Int) : dayAfter a b = dayBefore b a := by
  unfold dayAfter dayBefore
  simp only [bne_iff_ne, ne_eq, ite_not, gt_iff_lt, eq_comm (a := a.1), eq_comm (a := a.2.1)]

theorem dayBefore_iff_lt (a b : Int × Int × Int) : dayBefore a b = true ↔ Civil.lt a b := by
  unfold dayBefore Civil.lt
  simp only [bne_iff_ne, ne_eq, ite_not]
  repeat' split
  all_goals (simp only [decide_eq_true_eq]; omega)

/-- `is_before` is the calendar order, hence the order of day numbers. -/
theorem C01_before_iff (a b : Int × Int × Int) (ha : Civil.validT a = true) (hb : Civil.validT b = true) :
    dayBefore a b = true ↔ jdnT a < jdnT b := by
  rw [dayBefore_iff_lt, C01_lt_iff a b ha hb]

/-- `is_after` likewise. -/
theorem C01_after_iff (a b : Int × Int × Int) (ha : Civil.validT a = true) (hb : Civil.validT b = true) :
    dayAfter a b = true ↔ jdnT b < jdnT a := by
  rw [dayAfter_eq_before, C01_before_iff b a hb ha]

/-- Stepping forward by n days is the n-fold civil successor (any n, result in range). -/
theorem C01_next_fwd (a : Int × Int × Int) (n : Nat) (ha : Civil.validT a = true) (h : jdnT a + n ≤ jdnLast) :
    dayNext a n = some (Civil.iter n a) := by
  obtain ⟨i1, i2, _⟩ := iter_spec n a ha h
  exact (dayNext_iff_valid a _ n).2 ⟨i1, i2⟩

/-- Stepping backward by n days is the inverse of the n-fold successor. -/
theorem C01_next_bwd (c : Int × Int × Int) (n : Nat) (hc : Civil.validT c = true) (h : jdnT c + n ≤ jdnLast) :
    dayNext (Civil.iter n c) (-(n : Int)) = some c := by
  obtain ⟨_, i2, _⟩ := iter_spec n c hc h
  exact (dayNext_iff_valid _ c _).2 ⟨hc, by omega⟩

/-- Day difference is the number of civil successor steps. -/
theorem C01_subtract (a : Int × Int × Int) (n : Nat) (ha : Civil.validT a = true) (h : jdnT a + n ≤ jdnLast) :
    daySub (Civil.iter n a) a = n ∧ daySub a (Civil.iter n a) = -(n : Int) := by
  obtain ⟨_, i2, _⟩ := iter_spec n a ha h
  unfold daySub
  unfold jdnT at i2
  omega

/-- Leap rule of the code (Julian before 1600) = true rule of the mixed calendar, on the whole range. -/
theorem C01_isLeap (y : Int) (h1 : 1 ≤ y) (h2 : y ≤ 9999) : isLeap y = Civil.leap y := isLeap_eq_leap y h1 h2

/-- Month length = number of existing days of the month (21 in October 1582). -/
theorem C01_monthLen (y m : Int) (h1 : 1 ≤ y) (h2 : y ≤ 9999) (h3 : 1 ≤ m) (h4 : m ≤ 12) :
    monthLen y m = Civil.daysIn y m := by
  unfold Civil.daysIn
  simp only [beq_iff_eq, Bool.and_eq_true]
  split
  · rename_i hx; rw [hx.1, hx.2]; decide
  · rename_i hx; exact monthLen_eq_lastDay y m h1 h2 hx

/-- …and that number is the distance between successive firsts of month. -/
theorem C01_monthLen_dist (y m : Int) (h1 : 1 ≤ y) (h2 : y ≤ 9999) (h3 : 1 ≤ m) (h4 : m ≤ 12)
    (hlast : ¬ (y = 9999 ∧ m = 12)) :
    (if m = 12 then jdn (y + 1) 1 1 else jdn y (m + 1) 1) - jdn y m 1 = Civil.daysIn y m := by
  have := jdn_month_succ y m h3 h4
  rw [← C01_monthLen y m h1 h2 h3 h4]
  split <;> rename_i hm
  · rw [if_pos hm, if_pos hm] at this; omega
  · rw [if_neg hm, if_neg hm] at this; omega

/-- Year length = number of existing days of the year (355 in 1582). -/
theorem C01_yearLen (y : Int) (h1 : 1 ≤ y) (h2 : y ≤ 9999) :
    yearLen y = Civil.daysInYear y := by
  unfold yearLen Civil.daysInYear; rw [isLeap_eq_leap y h1 h2]

/-- …and that number is the distance between successive January firsts. -/
theorem C01_yearLen_dist (y : Int) (h1 : 1 ≤ y) (h2 : y ≤ 9998) :
    jdn (y + 1) 1 1 - jdn y 1 1 = Civil.daysInYear y := by
  rw [jdn_year_succ, C01_yearLen y h1 (by omega)]; omega

/-- Day-of-year = number of successor steps from January 1 of the same year. -/
theorem C01_indexInYear (y m d : Int) (hv : Civil.valid y m d = true) :
    0 ≤ dayIndexInYear (y, m, d) ∧ Civil.iter (dayIndexInYear (y, m, d)).toNat (y, 1, 1) = (y, m, d) := by
  obtain ⟨h1, h2, -⟩ := (valid_iff y m d).1 hv
  have hv1 : Civil.validT (y, 1, 1) = true := valid_first y 1 h1 h2 (by decide) (by decide)
  have hle : jdnT (y, 1, 1) ≤ jdnT (y, m, d) := (jdn_year_bounds y m d hv).1
  have hidx : dayIndexInYear (y, m, d) = jdnT (y, m, d) - jdnT (y, 1, 1) := rfl
  refine ⟨by omega, ?_⟩
  have hl := jdn_le_last y m d hv
  obtain ⟨i1, i2, _⟩ := iter_spec (dayIndexInYear (y, m, d)).toNat (y, 1, 1) hv1 (by
    have : jdnT (y, m, d) = jdn y m d := rfl
    omega)
  exact jdn_inj _ _ i1 hv (by rw [i2]; omega)

/-- Weekday advances by one per civil day (7 ∣ 7000000 folded into the model's offset). -/
theorem C01_week_next (j : Int) : weekOfJdn (j + 1) = (weekOfJdn j + 1) % 7 := by
  unfold weekOfJdn; omega

/-- Non-vacuity: the hypotheses are met by concrete dates, including the cut-over. -/
example : Civil.valid 1582 10 4 = true ∧ Civil.next 1582 10 4 = (1582, 10, 15) ∧
    jdn 1582 10 15 = jdn 1582 10 4 + 1 ∧ Civil.valid 1582 10 10 = false ∧ solarDayOk 1582 10 10 = false ∧
    Civil.valid 2000 2 29 = true ∧ Civil.valid 1900 2 29 = false ∧ Civil.valid 1500 2 29 = true := by decide

end Tyme

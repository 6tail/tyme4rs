import Tyme.Facts.C18Gods
import Tyme.Facts.C18Day
import Tyme.Facts.C18Names
import Tyme.Facts.C18Hour
import Tyme.Facts.C18Misc
/-!
C18 — almanac lookup tables are total and well-formed for every pillar pair.

Domain (finite, enumerated completely by the kernel on data regenerated from the code on every run):
all 12 month branches × 60 day pillars (spirits, day activities), all 60 day pillars × 12 hour branches (hour
activities), all 151 spirits, all lunar years −1..9999. Kernel enumeration of a finite domain is a proof; the
generic parts (`C18_kitchen_all_pillars`, `C18_steps_to_lt`, `C18_wellformed_decodes`) hold for ALL inputs.

Objects (see `Model/Almanac.lean`, `Model/AlmanacTables.lean`, `Spec/Almanac.lean`, `Facts/C18Defs.lean`):
* `rawDayGods`, `rawDayTaboo`, `rawHourTaboo`, `rawGodNames`, `rawTabooNames` — the private statics `DAY_GODS`,
  `DAY_TABOO`, `HOUR_TABOO`, `GOD_NAMES`, `TABOO_NAMES` lifted from the Rust source text (bytes);
  `godCount`/`tabooCount` = number of names;
* `extGods`, `extDayRec`, `extDayAvoid`, `extHourRec`, `extHourAvoid`, `extLuck`, `extKitchen` — what the API returns;
* `godRecord` (regex `;HH(.[^;]*)` as leftmost scan), `tabooRecord`/`tabooField` (`split(';')`/`split(',')`),
  `hexPairs`/`dayGodsRaw`/`taboosRaw` (hex-pair loop with `from_str_radix`), `dayGods`/`dayTaboos`/`hourTaboos`
  (after `from_index`), `luck`, `kitchen` — the model of the code;
* `fieldValues` (spec of a well-formed index field), `luckOf`, `AlmanacSpec.kitchen` — the specification.

`GodsPair mb d r e` says: record `r` is found for (month branch `mb`, day pillar `d`), it is an even number of hex
digits whose pairs are `e`, every value `< godCount`, `e ≠ []`, and the API returns `e`.
`TabooPair tbl xr xa sup sub fr fa er ea` says: the record of (row `sup`, day pillar `sub`) exists and has exactly the
two fields `fr`, `fa`; they are well formed with values `er`, `ea`, all `< tabooCount`, disjoint, and the API returns them.

Known finding (not repaired, see known_findings.json → Gen/C18Known.lean): lunar year −1 has no kitchen-god
attributes (construction panics); `C18_kitchen_partial` excludes exactly the listed years, `C18_kitchen_full` is the
full-strength statement.
-/
namespace Tyme
open Almanac AlmanacSpec Gen

/-- For each of the 12 month branches × 60 day pillars: the record is found by the scan, decodes without failure into
positions of `GOD_NAMES`, is not empty, and is what `God::get_day_gods` returns. -/
theorem C18_gods (mb d : Nat) (hm : mb < 12) (hd : d < 60) : ∃ r e, GodsPair mb d r e :=
  godsRowOk_spec (C18_fact_gods mb hm) d hd

/-- decode(raw) = API for every month *pillar* and day pillar: the code's decoder applied to the lifted table yields an
even-length record, integers that are all inside the list (so `from_index` wraps nothing), and exactly the API's list. -/
theorem C18_gods_decode (mp d : Nat) (_hm : mp < 60) (hd : d < 60) :
    ∃ r e, godRecord rawDayGods (mp % 12) d = some (some r) ∧ r.length = 2 * e.length ∧ e ≠ [] ∧
      dayGodsRaw rawDayGods (mp % 12) d = some (e.map Int.ofNat) ∧ (∀ v ∈ e, v < godCount) ∧
      dayGods rawDayGods godCount mp d = some e ∧ extGods (mp % 12) d = some e := by
  obtain ⟨r, e, h⟩ := C18_gods (mp % 12) d (Nat.mod_lt _ (by omega)) hd
  refine ⟨r, e, h.found, length_of_fieldValues r e h.parses, h.nonempty, h.decode, h.inRange, ?_, h.api⟩
  unfold dayGods; rw [h.decode]; exact wrapAll_of_lt e h.inRange

/-- Generic (ANY text, ANY label): if a text is laid out as labelled records — `;`, two label bytes, a non-empty field,
no `;` or newline inside labels and fields, optionally one trailing `;` — then the leftmost match of the code's regex
`;H₁H₂(.[^;]*)` is exactly the field of the first record labelled `H₁H₂`: a misaligned match is impossible. -/
theorem C18_scan_aligned (h1 h2 : Nat) (tail : List Nat) (ht : tail = [] ∨ tail = [59])
    (blocks : List (Nat × Nat × List Nat)) (hclean : ∀ blk ∈ blocks, cleanBlock blk = true) :
    findRecord h1 h2 (renderBlocks blocks ++ tail) = blockField blocks h1 h2 :=
  findRecord_render h1 h2 tail ht blocks hclean

/-- Each of the 12 `DAY_GODS` strings is laid out that way (checked by re-rendering its records and comparing with the
lifted text byte for byte), so `C18_scan_aligned` applies to every look-up the code can make in them. -/
theorem C18_gods_layout (mb : Nat) (hm : mb < 12) :
    ∃ s, rawDayGods[godTableIndex mb]? = some s ∧ layoutOk s (blocksOf s) = true :=
  godsRowOk_layout (C18_fact_gods mb hm)

/-- For each of the 12 month branches × 60 day pillars: recommends and avoids decode without failure into positions of
`TABOO_NAMES`, no activity is both recommended and avoided, and they are what the API returns. -/
theorem C18_day_taboo (mb d : Nat) (hm : mb < 12) (hd : d < 60) :
    ∃ fr fa er ea, TabooPair rawDayTaboo (extDayRec mb d) (extDayAvoid mb d) mb d fr fa er ea :=
  tabooRowOk_spec (C18_fact_day mb hm) d hd

/-- decode(raw) = API for every month pillar and day pillar, both lists, nothing wrapped, disjoint. -/
theorem C18_day_taboo_decode (mp d : Nat) (_hm : mp < 60) (hd : d < 60) :
    ∃ er ea, dayTaboos rawDayTaboo tabooCount mp d 0 = some er ∧ dayTaboos rawDayTaboo tabooCount mp d 1 = some ea ∧
      taboosRaw rawDayTaboo (mp % 12) d 0 = some (er.map Int.ofNat) ∧ taboosRaw rawDayTaboo (mp % 12) d 1 = some (ea.map Int.ofNat) ∧
      (∀ v ∈ er, v < tabooCount) ∧ (∀ v ∈ ea, v < tabooCount) ∧ (∀ v ∈ er, v ∉ ea) ∧
      extDayRec (mp % 12) d = some er ∧ extDayAvoid (mp % 12) d = some ea := by
  obtain ⟨fr, fa, er, ea, h⟩ := C18_day_taboo (mp % 12) d (Nat.mod_lt _ (by omega)) hd
  refine ⟨er, ea, ?_, ?_, h.decodeR, h.decodeA, h.inRangeR, h.inRangeA, h.disjoint, h.apiR, h.apiA⟩
  · unfold dayTaboos; rw [h.decodeR]; exact wrapAll_of_lt er h.inRangeR
  · unfold dayTaboos; rw [h.decodeA]; exact wrapAll_of_lt ea h.inRangeA

/-- For each of the 60 day pillars × 12 hour branches: likewise on `HOUR_TABOO` (row = hour branch, entry = day pillar). -/
theorem C18_hour_taboo (d hb : Nat) (hd : d < 60) (hh : hb < 12) :
    ∃ fr fa er ea, TabooPair rawHourTaboo (extHourRec d hb) (extHourAvoid d hb) hb d fr fa er ea :=
  tabooRowOk_spec (C18_fact_hour hb hh) d hd

/-- decode(raw) = API for every day pillar and hour pillar. -/
theorem C18_hour_taboo_decode (d hp : Nat) (hd : d < 60) (_hh : hp < 60) :
    ∃ er ea, hourTaboos rawHourTaboo tabooCount d hp 0 = some er ∧ hourTaboos rawHourTaboo tabooCount d hp 1 = some ea ∧
      taboosRaw rawHourTaboo (hp % 12) d 0 = some (er.map Int.ofNat) ∧ taboosRaw rawHourTaboo (hp % 12) d 1 = some (ea.map Int.ofNat) ∧
      (∀ v ∈ er, v < tabooCount) ∧ (∀ v ∈ ea, v < tabooCount) ∧ (∀ v ∈ er, v ∉ ea) ∧
      extHourRec d (hp % 12) = some er ∧ extHourAvoid d (hp % 12) = some ea := by
  obtain ⟨fr, fa, er, ea, h⟩ := C18_hour_taboo d (hp % 12) hd (Nat.mod_lt _ (by omega))
  refine ⟨er, ea, ?_, ?_, h.decodeR, h.decodeA, h.inRangeR, h.inRangeA, h.disjoint, h.apiR, h.apiA⟩
  · unfold hourTaboos; rw [h.decodeR]; exact wrapAll_of_lt er h.inRangeR
  · unfold hourTaboos; rw [h.decodeA]; exact wrapAll_of_lt ea h.inRangeA

/-- For ANY byte string: if it is a well-formed index field (spec) with values `e` all below `size`, the code's hex-pair
loop accepts it, yields exactly `e` with nothing negative, the length is even, and `from_index` moves nothing. -/
theorem C18_wellformed_decodes (size : Nat) (f : List Nat) (e : List Nat) (h : fieldValues f = some e)
    (hr : ∀ v ∈ e, v < size) :
    hexPairs f = some (e.map Int.ofNat) ∧ f.length % 2 = 0 ∧ wrapAll size (hexPairs f) = some e := by
  have h1 := hexPairs_of_fieldValues f e h
  refine ⟨h1, ?_, ?_⟩
  · rw [length_of_fieldValues f e h]; omega
  · rw [h1]; exact wrapAll_of_lt e hr

/-- The name lists lifted from the source are the lists the API uses (same names, same sizes: 151 and 141), and names
are pairwise distinct — so "same activity" (the library compares names) is "same index". -/
theorem C18_names :
    rawGodNames = extGodNames ∧ rawTabooNames = extTabooNames ∧ godCount = 151 ∧ tabooCount = 141 ∧
    C18Ext.godSize = 151 ∧ C18Ext.tabooSize = 141 ∧ rawTabooNames.Nodup ∧ rawGodNames.Nodup := by
  obtain ⟨a, b, c, d⟩ := C18_fact_names
  obtain ⟨e, f, _⟩ := C18_fact_sizes
  exact ⟨a, b, e, f, by rw [← c, e], by rw [← d, f], C18_fact_names_nodup.1, C18_fact_names_nodup.2⟩

/-- Every spirit: the API's class is the model's (`index < 60`), which is the spec's (auspicious ⇔ listed before 五虚),
and the auspicious part of the list is exactly positions 0..59 (解除 at 59, 五虚 at 60). -/
theorem C18_luck (i : Nat) (hi : i < 151) :
    extLuck i = some (luck i) ∧ luck i = luckOf rawGodNames i ∧
    (luck i = 0 ↔ i < 60) ∧ (luck i = 1 ↔ 60 ≤ i) ∧
    (i < 60 ↔ i < position firstOminous rawGodNames) := by
  have hc : godCount = 151 := C18_fact_sizes.1
  obtain ⟨h1, h2⟩ := luckOk_spec C18_fact_luck i (by omega)
  refine ⟨h1, h2, ?_, ?_, ?_⟩
  · unfold luck; split <;> simp_all
  · unfold luck; split <;> simp_all <;> omega
  · rw [C18_fact_split.1]

/-- Full-strength statement: for EVERY lunar year −1..9999 the attributes exist, are the model's numbers for the New Year
day pillar, equal the spec (ordinal of the first day carrying the sign), and lie in 1..12. -/
def C18_kitchen_full : Prop :=
  ∀ y : Int, -1 ≤ y → y ≤ 9999 →
    ∃ p nums, extKitchen y = some (p, nums) ∧ p < 60 ∧ Almanac.kitchen p = some nums ∧
      AlmanacSpec.kitchen p = nums.map some ∧ ∀ x ∈ nums, 1 ≤ x ∧ x ≤ 12

/-- Proved part: every lunar year −1..9999 that is not a listed known finding (`C18Known.kitchenYears`, generated from
known_findings.json; on the pinned tree exactly year −1, whose construction panics). -/
theorem C18_kitchen_partial (y : Int) (h1 : -1 ≤ y) (h2 : y ≤ 9999) (hk : y ∉ C18Known.kitchenYears) :
    ∃ p nums, extKitchen y = some (p, nums) ∧ p < 60 ∧ Almanac.kitchen p = some nums ∧
      AlmanacSpec.kitchen p = nums.map some ∧ ∀ x ∈ nums, 1 ≤ x ∧ x ≤ 12 :=
  kitchenOk_spec C18_fact_kitchen y h1 h2 hk

/-- Generic: `steps_to` of ANY target from ANY element of a non-empty cycle is below the cycle size, so with
`size ≤ 12` the look-up `NUMBERS[steps_to(n)]` never leaves the 12-entry table and shows a number in 1..size. -/
theorem C18_steps_to_lt (index size : Nat) (target : Int) (h0 : 0 < size) (h12 : size ≤ 12) :
    stepsTo index size target < size ∧
    ∃ k, numberAt (stepsTo index size target) = some k ∧ 1 ≤ k ∧ k ≤ size := by
  have h : stepsTo index size target < size := indexOf_lt _ h0
  refine ⟨h, stepsTo index size target + 1, ?_, by omega, by omega⟩
  unfold numberAt; rw [if_pos (by omega)]

/-- Generic: for ANY New Year day pillar index whatsoever (not only 0..59) all 16 numbers exist, are in 1..12, and are
the spec's. -/
theorem C18_kitchen_all_pillars (p : Nat) :
    ∃ nums, Almanac.kitchen p = some nums ∧ nums.length = 16 ∧ AlmanacSpec.kitchen p = nums.map some ∧
      ∀ x ∈ nums, 1 ≤ x ∧ x ≤ 12 := by
  have hm : p % 60 < 60 := Nat.mod_lt _ (by omega)
  obtain ⟨_, t2, t3, t4⟩ := kitchenT60_spec (p % 60) hm
  have e12 : p % 60 % 12 = p % 12 := by omega
  have e10 : p % 60 % 10 = p % 10 := by omega
  have hk : Almanac.kitchen p = Almanac.kitchen (p % 60) := by
    unfold Almanac.kitchen kitchenSlots byBranch byStem; rw [e12, e10]
  have hs : AlmanacSpec.kitchen p = AlmanacSpec.kitchen (p % 60) := by
    unfold AlmanacSpec.kitchen; rw [e12, e10]
  refine ⟨numsOfRec (kitchenT60At (p % 60)), by rw [hk]; exact t2, ?_, by rw [hs]; exact t3, t4⟩
  simp [numsOfRec, unpack]

/-! ### non-vacuity: the hypotheses are satisfiable, the statements talk about real data -/

example : ∃ mb d, mb < 12 ∧ d < 60 ∧ ∃ r e, GodsPair mb d r e := ⟨11, 59, by decide, by decide, C18_gods 11 59 (by decide) (by decide)⟩
example : ∃ e, extGods 0 0 = some e ∧ e ≠ [] := by
  obtain ⟨r, e, h⟩ := C18_gods 0 0 (by decide) (by decide); exact ⟨e, h.api, h.nonempty⟩
example : ∃ er ea, extDayRec 3 17 = some er ∧ extDayAvoid 3 17 = some ea ∧ ∀ v ∈ er, v ∉ ea := by
  obtain ⟨_, _, er, ea, h⟩ := C18_day_taboo 3 17 (by decide) (by decide); exact ⟨er, ea, h.apiR, h.apiA, h.disjoint⟩
example : ∃ er ea, extHourRec 59 11 = some er ∧ extHourAvoid 59 11 = some ea := by
  obtain ⟨_, _, er, ea, h⟩ := C18_hour_taboo 59 11 (by decide) (by decide); exact ⟨er, ea, h.apiR, h.apiA⟩
example : findRecord 48 49 [59, 48, 48, 65, 66, 59, 48, 49, 67, 68, 59] = some [67, 68] := by decide  -- ";00AB;01CD;" scanned for "01"
example : cleanBlock (48, 49, [67, 68]) = true ∧ renderBlocks [(48, 48, [65, 66]), (48, 49, [67, 68])] ++ [59] = [59, 48, 48, 65, 66, 59, 48, 49, 67, 68, 59] := by decide
example : fieldValues [48, 70, 57, 54] = some [15, 150] := by decide      -- "0F96"
example : fieldValues [57, 55] = some [151] ∧ ¬ (151 < 151) := by decide    -- "97" parses but is outside GOD_NAMES
example : extLuck 59 = some 0 ∧ extLuck 60 = some 1 := ⟨(C18_luck 59 (by decide)).1, (C18_luck 60 (by decide)).1⟩
example : (2024 : Int) ∉ C18Known.kitchenYears := by decide
example : ∃ p nums, extKitchen 2024 = some (p, nums) ∧ p < 60 :=
  let ⟨p, nums, h, hp, _⟩ := C18_kitchen_partial 2024 (by decide) (by decide) (by decide); ⟨p, nums, h, hp⟩
example : Almanac.kitchen 40 = some [9, 9, 10, 12, 1, 3, 6, 6, 8, 1, 3, 8, 11, 3, 11, 4] := by decide  -- 甲辰 New Year (2024): 九鼠偷粮 … 一龙治水
example : stepsTo 4 12 0 = 8 ∧ stepsTo 9 10 (-3) = 8 := by decide

end Tyme

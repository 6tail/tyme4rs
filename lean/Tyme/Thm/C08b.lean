import Tyme.Thm.C02b
import Tyme.Lemmas.DayView
/-!
C08 (end to end) — for the data re-extracted from /repo: the day view of every civil date inside a tiling interval
equals the rule: year pillar = (Y* − 4) mod 60 with Y* = Y from the Lichun day of Y on, else Y − 1; the month is
the k-th month after that Lichun (k = number of Jie days passed = ⌊(term − Lichun)/2⌋ on the global term sequence),
branch (2 + k) mod 12 (Yin at Lichun), stem by Five Tigers from the stem of Y*. Read off `Cont.day_view_spec`.
Obligations `C08_*` (this file is part of the C08 check).
-/
namespace Tyme
open Lunar SC Cont

/-- END-TO-END (day view = rule) on the current tree's data, for every civil date of the years a+1 .. b−1 of any
interval [a, b] of lunar years on which the month table tiles (instantiated below for 241..9997). -/
theorem C08_day_spec (a b : Nat) (ha1 : 1 ≤ a) (hab : a + 1 ≤ b) (hb : b ≤ 9998) (ht : TilesOn realEph a b)
    (Y M D : Int) (hv : Civil.valid Y M D = true) (hY1 : (a : Int) + 1 ≤ Y) (hY2 : Y + 1 ≤ b)
    (v : DayView) (h : ofSolarDay realEph Y M D = some v) :
    let spring := realEph.termDay (24 * (Y - 1) + 3).toNat
    let ystar := if jdn Y M D < spring then Y - 1 else Y
    v.year = (ystar - 4) % 60 ∧
    ∃ g kk, Term.ofDay realEph Y M D = some (g, kk) ∧
      0 ≤ ((g : Int) - (24 * (ystar - 1) + 3)) / 2 ∧ ((g : Int) - (24 * (ystar - 1) + 3)) / 2 ≤ 11 ∧
      v.month % 12 = (2 + ((g : Int) - (24 * (ystar - 1) + 3)) / 2) % 12 ∧
      v.month % 10 = ((((ystar - 4) % 60) % 10 + 1) * 2 + ((g : Int) - (24 * (ystar - 1) + 3)) / 2) % 10 := by
  intro spring ystar
  obtain ⟨i1, i2, i3, i4⟩ := C02_interval_of_year realEph realEph_newYearFacts a b (by omega) (by omega) Y M D hv (Or.inr hY1) hY2
  obtain ⟨g, kk, hg, _, gb1, gb2, _, _, hbef, hyr, hmo⟩ := day_view_spec realEph realEph_termFacts Y M D hv (by omega) v h
    (lunarYearOK_of_tiles realEph realEph_leap_le realEph_termFacts realEph_newYearFacts a b (by omega) ht Y M D hv i1 i2 i3 i4)
  obtain ⟨r1, r2, r3, r4, r5⟩ := rule_of_counters Y g ⟨gb1, gb2⟩ _ hbef v.year v.month hyr hmo
  exact ⟨r1, g, kk, hg, r2, r3, r4, r5⟩

/-- instantiation: every civil date of AD 241..9997 (the main tiling interval of the current data) -/
theorem C08_day_spec_main (Y M D : Int) (hv : Civil.valid Y M D = true) (hY1 : 241 ≤ Y) (hY2 : Y ≤ 9997)
    (v : DayView) (h : ofSolarDay realEph Y M D = some v) :
    v.year = ((if jdn Y M D < realEph.termDay (24 * (Y - 1) + 3).toNat then Y - 1 else Y) - 4) % 60 :=
  (C08_day_spec 240 9998 (by omega) (by omega) (by omega) C02_good_intervals.2.2.2.2 Y M D hv (by omega) (by omega) v h).1

end Tyme

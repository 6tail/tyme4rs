import Tyme.Lemmas.Clock
/-!
C12 — clock arithmetic to the second and Julian date ⇄ instant are exact, for every instant
0001-01-01 00:00:00 .. 9999-12-31 23:59:59, every integer offset n and every rational Julian date p/q.
Every obligation is named `C12_*`; helpers live in `Tyme/Lemmas/Clock.lean`.

Spec  (Tyme/Spec/Clock.lean): `Time`, `Clock.valid`, `Clock.tick` (the next second, carrying into minute, hour and
      `Civil.next` day), `Clock.lt`, `Clock.first/last`, `Clock.nearestOrd`; `Clock.iter n` = n-fold `tick`.
Model (Tyme/Model/Clock.lean): `timeOk` (SolarTime::new), `timeNext` (SolarTime::next with the three trunc-and-repair
      carries), `timeSub`, `timeBefore/After`, `ofJD` (JulianDay::get_solar_time AFTER fixes/C12-jd-carry.diff and
      fixes/C12-jd-half.diff), measuring functions `secs t = 86400·jdn + 3600h + 60mi + s`,
      `jdNum t / 172800` (exact Julian date of t), `jdSecs p q` (nearest whole second of the Julian date p/q).
      Tied to src/tyme/{solar,jd}.rs by the correspondence run.
`secsFirst = secs first`, `secsLast = secs last`.
-/
namespace Tyme

/-- Acceptance: `SolarTime::new` accepts exactly the instants that exist — for ALL six integers. -/
theorem C12_new_iff (y m d h mi s : Int) : timeOk y m d h mi s = Clock.valid ⟨(y, m, d), h, mi, s⟩ := by
  rw [Bool.eq_iff_iff, timeOk_iff, clock_valid_iff]; rfl

/-- `secs` is the coordinate of the spec's time line: one `tick` (whatever it carries into: minute, hour, day,
month end, leap day, year end, the 1582 cut-over) is exactly +1. -/
theorem C12_tick_secs (t : Time) (hv : Clock.valid t = true) (hne : t ≠ Clock.last) :
    Clock.valid (Clock.tick t) = true ∧ secs (Clock.tick t) = secs t + 1 := by
  obtain ⟨v, b1, b2, b3, b4, b5, b6⟩ := (clock_valid_iff t).1 hv
  unfold Clock.tick
  split
  · rw [clock_valid_iff]; unfold secs; dsimp only
    refine ⟨⟨v, ?_, ?_, ?_, ?_, ?_, ?_⟩, ?_⟩ <;> omega
  · split
    · rw [clock_valid_iff]; unfold secs; dsimp only
      refine ⟨⟨v, ?_, ?_, ?_, ?_, ?_, ?_⟩, ?_⟩ <;> omega
    · split
      · rw [clock_valid_iff]; unfold secs; dsimp only
        refine ⟨⟨v, ?_, ?_, ?_, ?_, ?_, ?_⟩, ?_⟩ <;> omega
      · -- 23:59:59 of a day other than the last: `Civil.next` exists and is one day number later
        have hd : ¬ (t.day.1 = 9999 ∧ t.day.2.1 = 12 ∧ t.day.2.2 = 31) := by
          intro hd
          apply hne
          obtain ⟨⟨y, m, d⟩, hh, mi, s⟩ := t
          simp only [Clock.last, Time.mk.injEq, Prod.mk.injEq]
          dsimp only at *
          omega
        have nv := next_valid t.day.1 t.day.2.1 t.day.2.2 v hd
        have nj := jdn_next t.day.1 t.day.2.1 t.day.2.2 v hd
        rw [clock_valid_iff]; unfold secs; dsimp only
        refine ⟨⟨nv, ?_, ?_, ?_, ?_, ?_, ?_⟩, ?_⟩ <;> omega

/-- …it separates instants… -/
theorem C12_secs_inj (a b : Time) (ha : Clock.valid a = true) (hb : Clock.valid b = true) (h : secs a = secs b) :
    a = b := by
  -- both are THE instant `mkTime?` builds at that position
  obtain ⟨_, a1, a2, a3, a4, a5, a6⟩ := (clock_valid_iff a).1 ha
  have ea := (mkTime_ofJdn_secs (jdnT a.day) a.h a.mi a.s a ⟨a1, a2⟩ ⟨a3, a4⟩ ⟨a5, a6⟩).2 ⟨ha, rfl⟩
  have eb := (mkTime_ofJdn_secs (jdnT a.day) a.h a.mi a.s b ⟨a1, a2⟩ ⟨a3, a4⟩ ⟨a5, a6⟩).2 ⟨hb, h ▸ rfl⟩
  exact Option.some.inj (ea.symm.trans eb)

/-- …it stays inside [secsFirst, secsLast] (every value there is taken: `secs_surj`)… -/
theorem C12_secs_range (t : Time) (hv : Clock.valid t = true) : secsFirst ≤ secs t ∧ secs t ≤ secsLast := by
  obtain ⟨v, h1, h2, h3, h4, h5, h6⟩ := (clock_valid_iff t).1 hv
  have hl := jdn_le_last t.day.1 t.day.2.1 t.day.2.2 v
  have hf := jdn_ge_first t.day.1 t.day.2.1 t.day.2.2 v
  unfold secs secsFirst secsLast
  omega

theorem clock_iter_spec : ∀ (n : Nat) (t : Time), Clock.valid t = true → secs t + n ≤ secsLast →
    Clock.valid (Clock.iter n t) = true ∧ secs (Clock.iter n t) = secs t + n := by
  intro n
  induction n with
  | zero => intro t hv _; simp [Clock.iter, hv]
  | succ n ih =>
    intro t hv hle
    have hne : t ≠ Clock.last := by
      rintro rfl
      have : secs Clock.last = secsLast := by decide
      omega
    obtain ⟨v1, s1⟩ := C12_tick_secs t hv hne
    obtain ⟨v2, s2⟩ := ih (Clock.tick t) v1 (by rw [s1]; omega)
    exact ⟨v2, by show secs (Clock.iter n (Clock.tick t)) = _; rw [s2, s1]; omega⟩

/-- …and every instant is reached from 0001-01-01 00:00:00 by `secs t − secsFirst` ticks. -/
theorem C12_secs_ticks (t : Time) (hv : Clock.valid t = true) :
    Clock.iter (secs t - secsFirst).toNat Clock.first = t := by
  have hb := C12_secs_range t hv
  have hf : secs Clock.first = secsFirst := by decide
  have hv0 : Clock.valid Clock.first = true := by decide
  obtain ⟨v, e⟩ := clock_iter_spec (secs t - secsFirst).toNat Clock.first hv0 (by omega)
  exact C12_secs_inj _ _ v hv (by omega)

/-- Chronological order of instants is the order of `secs`. -/
theorem C12_lt_iff (a b : Time) (ha : Clock.valid a = true) (hb : Clock.valid b = true) :
    Clock.lt a b ↔ secs a < secs b := by
  obtain ⟨va, a1, a2, a3, a4, a5, a6⟩ := (clock_valid_iff a).1 ha
  obtain ⟨vb, b1, b2, b3, b4, b5, b6⟩ := (clock_valid_iff b).1 hb
  unfold Clock.lt
  rw [C01_lt_iff a.day b.day va vb, secs_eq, secs_eq]
  by_cases hd : a.day = b.day
  · rw [hd]; simp only [true_and]; omega
  · have : jdnT a.day ≠ jdnT b.day := fun e => hd (jdn_inj _ _ va vb e)
    simp only [hd, false_and, or_false]
    omega

/-- `next` returns r exactly when r is THE instant n seconds after t — for ALL integers n. -/
theorem C12_next_iff (t r : Time) (n : Int) (hv : Clock.valid t = true) :
    timeNext t n = some r ↔ (Clock.valid r = true ∧ secs r = secs t + n) := by
  by_cases hn : n = 0
  · subst hn
    simp only [timeNext, if_true, Option.some.injEq, Int.add_zero]
    exact ⟨fun e => e ▸ ⟨hv, rfl⟩, fun ⟨v, e⟩ => (C12_secs_inj r t v hv e).symm⟩
  · unfold timeNext
    simp only [hn, if_false]
    have cs := Clock.carry_spec t.s t.mi t.h n
    generalize Clock.carry t.s t.mi t.h n = c at cs
    obtain ⟨e, c1, c2, c3, c4, c5, c6⟩ := cs
    rw [dayNext_bind_mkTime, mkTime_ofJdn_secs _ _ _ _ r ⟨c1, by omega⟩ ⟨c3, by omega⟩ ⟨c5, by omega⟩]
    have hs := secs_eq t
    rw [show 86400 * (jdnT t.day + c.1) + 3600 * c.2.1 + 60 * c.2.2.1 + c.2.2.2 = secs t + n by omega]

/-- So adding n seconds yields the instant exactly n seconds later whenever the target lies in range… -/
theorem C12_next_secs (t : Time) (n : Int) (hv : Clock.valid t = true)
    (h1 : secsFirst ≤ secs t + n) (h2 : secs t + n ≤ secsLast) :
    ∃ r, timeNext t n = some r ∧ Clock.valid r = true ∧ secs r = secs t + n := by
  obtain ⟨r, v, e⟩ := secs_surj _ h1 h2
  exact ⟨r, (C12_next_iff t r n hv).2 ⟨v, e⟩, v, e⟩

/-- …and is refused (never a wrong instant) when the target lies outside 0001..9999. -/
theorem C12_next_refused (t : Time) (n : Int) (hv : Clock.valid t = true)
    (h : secs t + n < secsFirst ∨ secsLast < secs t + n) : timeNext t n = none :=
  Option.eq_none_iff_forall_ne_some.2 fun r e => by
    obtain ⟨v, s⟩ := (C12_next_iff t r n hv).1 e
    have := C12_secs_range r v
    omega

/-- n = 0 is the identity (on every value, valid or not). -/
theorem C12_next_zero (t : Time) : timeNext t 0 = some t := by simp [timeNext]

/-- Forward stepping is the n-fold successor second of the specification. -/
theorem C12_next_tick (t : Time) (n : Nat) (hv : Clock.valid t = true) (h : secs t + n ≤ secsLast) :
    timeNext t n = some (Clock.iter n t) := by
  obtain ⟨v, s⟩ := clock_iter_spec n t hv h
  exact (C12_next_iff t _ n hv).2 ⟨v, s⟩

/-- Stepping back undoes stepping forward (any sign of n). -/
theorem C12_next_back (t r : Time) (n : Int) (hv : Clock.valid t = true) (e : timeNext t n = some r) :
    timeNext r (-n) = some t := by
  obtain ⟨v, s⟩ := (C12_next_iff t r n hv).1 e
  exact (C12_next_iff r t (-n) v).2 ⟨hv, by omega⟩

/-- Steps compose: a then b is a + b (including refusal of the combined step). -/
theorem C12_next_add (t u : Time) (a b : Int) (hv : Clock.valid t = true) (e : timeNext t a = some u) :
    timeNext u b = timeNext t (a + b) := by
  obtain ⟨v, s⟩ := (C12_next_iff t u a hv).1 e
  apply Option.ext
  intro r
  rw [C12_next_iff u r b v, C12_next_iff t r (a + b) hv, s, Int.add_assoc]

/-- The difference of two instants is their distance in seconds (an identity of the model, any two values). -/
theorem C12_subtract (a b : Time) : timeSub a b = secs a - secs b := by
  unfold timeSub secs daySub
  dsimp only
  split <;> omega

/-- …so `subtract` inverts `next`. -/
theorem C12_subtract_next (t r : Time) (n : Int) (hv : Clock.valid t = true) (e : timeNext t n = some r) :
    timeSub r t = n := by
  obtain ⟨_, s⟩ := (C12_next_iff t r n hv).1 e
  rw [C12_subtract]; omega

/-- `is_before` / `is_after` are the chronological order… -/
theorem C12_before_iff (a b : Time) (ha : Clock.valid a = true) (hb : Clock.valid b = true) :
    timeBefore a b = true ↔ Clock.lt a b :=
  timeBefore_iff_lt a b

theorem C12_after_iff (a b : Time) (ha : Clock.valid a = true) (hb : Clock.valid b = true) :
    timeAfter a b = true ↔ Clock.lt b a := by
  rw [timeAfter_eq_before]; exact timeBefore_iff_lt b a

/-- …and coincide with the sign of the difference. -/
theorem C12_before_sub (a b : Time) (ha : Clock.valid a = true) (hb : Clock.valid b = true) :
    timeBefore a b = true ↔ timeSub a b < 0 := by
  rw [C12_before_iff a b ha hb, C12_lt_iff a b ha hb, C12_subtract]; omega

theorem C12_after_sub (a b : Time) (ha : Clock.valid a = true) (hb : Clock.valid b = true) :
    timeAfter a b = true ↔ 0 < timeSub a b := by
  rw [C12_after_iff a b ha hb, C12_lt_iff b a hb ha, C12_subtract]; omega

/-! ### Julian date ⇄ instant.  A Julian date is any rational p/q, q > 0 (an f64 is the case q = 2^k). -/

/-- `jdSecs` in the specification's terms: the nearest whole second counted from 0001-01-01 00:00:00
(Julian date 1721423.5), a tie going to the later second. -/
theorem C12_jdSecs_ord (p q : Int) (hq : 0 < q) : jdSecs p q = secsFirst + Clock.nearestOrd p q := by
  unfold jdSecs Clock.nearestOrd secsFirst jdnFirst
  have e : 86400 * (2 * p + q) + q = 86400 * (2 * p - 3442847 * q) + q + 148731033600 * (2 * q) := by omega
  rw [e, Int.add_mul_ediv_right _ _ (show 2 * q ≠ 0 by omega)]
  omega

/-- The exact Julian date of an instant: day number − ½ + seconds of the day / 86400. -/
theorem C12_toJD_exact (t : Time) :
    jdNum t = jdDen * jdn t.day.1 t.day.2.1 t.day.2.2 - 86400 + 2 * (3600 * t.h + 60 * t.mi + t.s) := by
  unfold jdNum jdDen secs; omega

/-- Julian date → instant: the result is r exactly when r is THE existing instant at the nearest whole second. -/
theorem C12_ofJD_iff (p q : Int) (r : Time) (hq : 0 < q) :
    ofJD p q = some r ↔ (Clock.valid r = true ∧ secs r = jdSecs p q) := by
  have cs := jdClock_spec p q hq
  unfold ofJD
  generalize jdClock p q = c at cs
  obtain ⟨d, hh, mm, ss⟩ := c
  dsimp only at cs ⊢
  obtain ⟨e, a1, a2, a3, a4, a5, a6, a7⟩ := cs
  split
  · have : hh = 24 := by omega
    obtain ⟨z1, z2⟩ := a7 this
    subst this z1 z2
    rw [jdClock_midnight]
    dsimp only
    rw [mkTime_ofJdn_secs _ _ _ _ r (by omega) (by omega) (by omega),
      show 86400 * (d + 1) + 3600 * 0 + 60 * 0 + 0 = jdSecs p q by omega]
  · rw [mkTime_ofJdn_secs _ _ _ _ r ⟨a1, by omega⟩ ⟨a3, a4⟩ ⟨a5, a6⟩, e]

/-- Every Julian date from 0001-01-01 00:00:00 (1721423.5) up to, but excluding, 9999-12-31 23:59:59.5
is accepted and yields an existing instant — no panic at month ends, year ends or anywhere else (D8 repaired). -/
theorem C12_ofJD_valid (p q : Int) (hq : 0 < q) (h1 : (2 * jdnFirst - 1) * q ≤ 2 * p)
    (h2 : 172800 * p < (172800 * jdnLast + 86399) * q) :
    ∃ t, ofJD p q = some t ∧ Clock.valid t = true := by
  have hQ : (0 : Int) < 2 * q := by omega
  unfold jdnFirst at h1
  unfold jdnLast at h2
  have a1 : secsFirst ≤ jdSecs p q := by
    unfold jdSecs secsFirst jdnFirst
    rw [Int.le_ediv_iff_mul_le hQ]; omega
  have a2 : jdSecs p q ≤ secsLast := by
    have : jdSecs p q < secsLast + 1 := by
      unfold jdSecs secsLast jdnLast
      rw [Int.ediv_lt_iff_lt_mul hQ]; omega
    omega
  obtain ⟨t, v, e⟩ := secs_surj _ a1 a2
  exact ⟨t, (C12_ofJD_iff p q t hq).2 ⟨v, e⟩, v⟩

/-- Outside that window the conversion is refused (the nearest second is not in 0001..9999). -/
theorem C12_ofJD_refused (p q : Int) (hq : 0 < q) (h : jdSecs p q < secsFirst ∨ secsLast < jdSecs p q) :
    ofJD p q = none :=
  Option.eq_none_iff_forall_ne_some.2 fun t e => by
    obtain ⟨v, s⟩ := (C12_ofJD_iff p q t hq).1 e
    have := C12_secs_range t v
    omega

/-- The instant returned lies within half a second of the Julian date:
−½ s < secs t − 86400·(p/q + ½) ≤ ½ s, written without fractions (multiply by 2q). -/
theorem C12_ofJD_near (p q : Int) (t : Time) (hq : 0 < q) (e : ofJD p q = some t) :
    -q < 2 * q * secs t - 86400 * (2 * p + q) ∧ 2 * q * secs t - 86400 * (2 * p + q) ≤ q := by
  obtain ⟨_, s⟩ := (C12_ofJD_iff p q t hq).1 e
  have := (jdSecs_eq_iff p q _ hq).1 rfl
  rw [s]; omega

/-- Sharp inverse: EVERY Julian date p/q in the half-open second [t − ½ s, t + ½ s) maps back to t. -/
theorem C12_ofJD_char (t : Time) (p q : Int) (hv : Clock.valid t = true) (hq : 0 < q)
    (h1 : 2 * q * secs t - q ≤ 86400 * (2 * p + q)) (h2 : 86400 * (2 * p + q) < 2 * q * secs t + q) :
    ofJD p q = some t :=
  (C12_ofJD_iff p q t hq).2 ⟨hv, ((jdSecs_eq_iff p q (secs t) hq).2 ⟨by omega, by omega⟩).symm⟩

/-- Instant → exact Julian date → instant is the identity. -/
theorem C12_roundtrip_exact (t : Time) (hv : Clock.valid t = true) : ofJD (jdNum t) jdDen = some t := by
  apply C12_ofJD_char t _ _ hv (by decide) <;> (unfold jdNum jdDen; omega)

/-- Robust round trip: every Julian date within 10⁻⁷ day (8.64 ms) of the exact Julian date of t maps back to t.
This is what makes `get_julian_day().get_solar_time()` the identity although `from_ymd_hms` computes the date in
f64 with inexact `/60`, `/24` (measured error ≤ 4.7·10⁻¹⁰ day, see evidence). |p/q − jdNum t/172800| ≤ 10⁻⁷ is
written as |172800·p − jdNum t·q|·10⁷ ≤ 172800·q. -/
theorem C12_roundtrip_robust (t : Time) (p q : Int) (hv : Clock.valid t = true) (hq : 0 < q)
    (h1 : -(172800 * q) ≤ 10000000 * (172800 * p - jdNum t * q))
    (h2 : 10000000 * (172800 * p - jdNum t * q) ≤ 172800 * q) :
    ofJD p q = some t := by
  unfold jdNum at h1 h2
  have e : (2 * secs t - 86400) * q = 2 * (q * secs t) - 86400 * q := by
    rw [Int.sub_mul, Int.mul_assoc, Int.mul_comm (secs t) q]
  rw [e] at h1 h2
  have e2 : 2 * q * secs t = 2 * (q * secs t) := by rw [Int.mul_assoc]
  apply C12_ofJD_char t p q hv hq <;> (rw [e2]; omega)

/-! ### non-vacuity: the hypotheses are met by concrete instants on the interesting boundaries -/

example : Clock.valid ⟨(2023, 1, 31), 23, 59, 59⟩ = true ∧
    timeNext ⟨(2023, 1, 31), 23, 59, 59⟩ 1 = some ⟨(2023, 2, 1), 0, 0, 0⟩ ∧
    timeNext ⟨(1582, 10, 15), 0, 0, 0⟩ (-1) = some ⟨(1582, 10, 4), 23, 59, 59⟩ ∧
    timeNext ⟨(2000, 2, 28), 23, 59, 59⟩ 86401 = some ⟨(2000, 3, 1), 0, 0, 0⟩ ∧
    timeNext ⟨(1, 1, 1), 0, 0, 0⟩ (-1) = none ∧ timeNext Clock.last 1 = none ∧
    Clock.tick ⟨(1582, 10, 4), 23, 59, 59⟩ = ⟨(1582, 10, 15), 0, 0, 0⟩ ∧
    timeSub ⟨(1582, 10, 15), 0, 0, 0⟩ ⟨(1582, 10, 4), 23, 59, 59⟩ = 1 ∧
    timeBefore ⟨(1582, 10, 4), 23, 59, 59⟩ ⟨(1582, 10, 15), 0, 0, 0⟩ = true ∧
    timeOk 2023 2 29 0 0 0 = false ∧ timeOk 2023 2 28 24 0 0 = false ∧ timeOk 2023 2 28 23 59 59 = true := by decide

/-- 2023-01-31 23:59:59.6 (the D8 input: panicked before the repair) is now 2023-02-01 00:00:00; 23:59:59.4 stays;
the exact half goes up; a date just below the first instant is refused; f64 0x413fffff80006117 (00:00:00.499997 on
1029-09-09, returned as 00:00:01 before the second repair) is 00:00:00. -/
example : ofJD 4919952999990741 2000000000 = some ⟨(2023, 2, 1), 0, 0, 0⟩ ∧
    ofJD (2459976 * 864000 + 431994) 864000 = some ⟨(2023, 1, 31), 23, 59, 59⟩ ∧
    ofJD (2459976 * 172800 + 86399) 172800 = some ⟨(2023, 2, 1), 0, 0, 0⟩ ∧
    ofJD 0x1fffff80006117 (2 ^ 32) = some ⟨(1029, 9, 9), 0, 0, 0⟩ ∧
    ofJD (1721423 * 172800 + 86399) 172800 = some Clock.first ∧
    ofJD (1721423 * 172800 + 86398) 172800 = none ∧
    ofJD (jdNum Clock.last) jdDen = some Clock.last ∧ ofJD (jdNum Clock.last + 1) jdDen = none := by decide

end Tyme

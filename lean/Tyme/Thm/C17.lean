import Tyme.Lemmas.AlmanacCycles
import Tyme.Facts.C13Win
import Tyme.Thm.C07
import Tyme.Thm.C08
import Tyme.Facts.Quick
/-!
C17 — daily and hourly almanac cycles obey their defining recurrences. Property theorems (`C17_*`).
Model: `Tyme.Alm` (Model/AlmanacCycles.lean) AFTER the repairs D12 (six-day star: unsigned month), D25 (hour nine
star ascends again from the December solstice) and D26 (day nine star of the January days before the winter
turning point). Spec: `Tyme.AlmSpec` (Spec/AlmanacCycles.lean), stated on day numbers, branches, term indices and
lunar dates only. Finite families are decided by complete kernel enumeration (`decide`, which IS a proof for a
finite domain); everything indexed by dates or years is proved for all integers / for every ephemeris.
-/
namespace Tyme
open Alm

/-- `from_index` / `next` wrap by the mathematical modulo for every cycle size used here -/
theorem C17_indexOf (i : Int) :
    indexOf i 6 = i % 6 ∧ indexOf i 7 = i % 7 ∧ indexOf i 9 = i % 9 ∧ indexOf i 12 = i % 12 ∧
    indexOf i 28 = i % 28 ∧ indexOf i 30 = i % 30 :=
  ⟨indexOf_eq_emod i 6 (by decide), indexOf_eq_emod i 7 (by decide), indexOf_eq_emod i 9 (by decide), indexOf_eq_emod i 12 (by decide),
    indexOf_eq_emod i 28 (by decide), indexOf_eq_emod i 30 (by decide)⟩

/-- the day officer (建除十二神) is (day branch − month branch) mod 12 for all pillar indices; it is "Jian" (0) exactly when the two
branches are equal, and moves one step when the day pillar moves one step under the same month pillar. -/
theorem C17_duty (dp mp : Int) :
    duty dp mp = AlmSpec.duty (dp % 12) (mp % 12) ∧
    (duty dp mp = 0 ↔ dp % 12 = mp % 12) ∧
    duty (dp + 1) mp = (duty dp mp + 1) % 12 := by
  unfold duty AlmSpec.duty
  rw [branch_eq, branch_eq, branch_eq, indexOf_eq_emod _ 12 (by decide), indexOf_eq_emod _ 12 (by decide)]
  refine ⟨rfl, ?_, ?_⟩ <;> omega

/-- the branch of the month pillar the sexagenary-day view reports is the branch of the solar term the day lies
in: Lichun/Yushui → Yin, …, Daxue/winter solstice → Zi, Xiaohan/Dahan → Chou (every ephemeris, every accepted date) -/
theorem C17_month_branch (E : Eph) (Y M D : Int) (v : SC.DayView) (h : SC.ofSolarDay E Y M D = some v) :
    ∃ g kk, Term.ofDay E Y M D = some (g, kk) ∧ v.month % 12 = AlmSpec.monthBranch ((g % 24 : Nat) : Int) := by
  obtain ⟨x, k, g, kk, _, hg, _, hm, _⟩ := ofSolarDay_inv E Y M D v h
  refine ⟨g, kk, hg, ?_⟩
  have h0 : (0 : Int) ≤ ((g % 24 : Nat) : Int) := by omega
  have h1 : ((g % 24 : Nat) : Int) ≤ 23 := by omega
  rw [hm, C08_monthOffset _ h0 h1]
  unfold AlmSpec.monthBranch
  generalize ((g % 24 : Nat) : Int) = t at h0 h1 ⊢
  split
  · omega
  · split <;> omega

/-- the day officer of a civil date, inside an interval of lunar years where the month table tiles:
(branch of (day number + 49)) − (branch of the day's solar-term month), mod 12. Hence Jian ⇔ equal branches and
+1 per day while the term month does not change (`C17_duty`). -/
theorem C17_duty_civil (E : Eph) (hl : ∀ y, E.leap y ≤ 12) (a b : Int) (ht : Lunar.TilesOn E a b) (Y M D : Int)
    (hY : a ≤ Y) (hY2 : Y ≤ b) (hlo : Lunar.first E ⟨a, 0⟩ ≤ jdn Y M D) (hhi : jdn Y M D < Lunar.first E ⟨b + 1, 0⟩)
    (v : SC.DayView) (h : SC.ofSolarDay E Y M D = some v) :
    ∃ g kk, Term.ofDay E Y M D = some (g, kk) ∧
      duty v.day v.month = AlmSpec.duty (AlmSpec.pillar (jdn Y M D) % 12) (AlmSpec.monthBranch ((g % 24 : Nat) : Int)) ∧
      twelve v.day v.month = (AlmSpec.pillar (jdn Y M D) % 12 + (8 - AlmSpec.monthBranch ((g % 24 : Nat) : Int) % 6) * 2) % 12 := by
  obtain ⟨g, kk, hg, hm⟩ := C17_month_branch E Y M D v h
  have hd := C07_view E hl a b ht Y M D hY hY2 hlo hhi v h
  refine ⟨g, kk, hg, ?_, ?_⟩
  · rw [(C17_duty v.day v.month).1, hm, hd]; unfold AlmSpec.pillar; rfl
  · unfold twelve AlmSpec.pillar
    rw [branch_eq, branch_eq, indexOf_eq_emod _ 12 (by decide), hm, hd]
    have : 0 ≤ AlmSpec.monthBranch ((g % 24 : Nat) : Int) := by unfold AlmSpec.monthBranch; omega
    rw [Int.tmod_eq_emod_of_nonneg this]

/-- one step per civil day: two consecutive dates with the same month pillar have consecutive officers and
consecutive spirits -/
theorem C17_duty_step (E : Eph) (hl : ∀ y, E.leap y ≤ 12) (a b : Int) (ht : Lunar.TilesOn E a b)
    (Y M D Y' M' D' : Int) (hnext : jdn Y' M' D' = jdn Y M D + 1)
    (hY : a ≤ Y) (hY2 : Y ≤ b) (hlo : Lunar.first E ⟨a, 0⟩ ≤ jdn Y M D) (hhi : jdn Y M D < Lunar.first E ⟨b + 1, 0⟩)
    (hY' : a ≤ Y') (hY2' : Y' ≤ b) (hhi' : jdn Y' M' D' < Lunar.first E ⟨b + 1, 0⟩)
    (v v' : SC.DayView) (h : SC.ofSolarDay E Y M D = some v) (h' : SC.ofSolarDay E Y' M' D' = some v')
    (hsame : v'.month = v.month) :
    duty v'.day v'.month = (duty v.day v.month + 1) % 12 ∧ twelve v'.day v'.month = (twelve v.day v.month + 1) % 12 := by
  have hd := C07_view E hl a b ht Y M D hY hY2 hlo hhi v h
  have hd' := C07_view E hl a b ht Y' M' D' hY' hY2' (by omega) hhi' v' h'
  unfold duty twelve
  simp only [branch_eq, indexOf_eq_emod _ 12 (by decide), hsame, hd, hd', hnext]
  rw [Int.tmod_eq_emod_of_nonneg (show 0 ≤ v.month % 12 by omega)]
  constructor <;> omega

/-- Yellow / Black path spirits (黄道黑道十二神). COMPLETE ENUMERATION (144 pairs): the code's `branch + (8 − ref % 6)·2` equals the
classical start table
(Zi/Wu→Shen, Chou/Wei→Xu, Yin/Shen→Zi, Mao/You→Yin, Chen/Xu→Chen, Si/Hai→Wu) counted on from the dragon's branch -/
theorem C17_twelve_table : ∀ b : Nat, b < 12 → ∀ r : Nat, r < 12 →
    twelve (b : Int) (r : Int) = AlmSpec.twelve (b : Int) (r : Int) := by decide

/-- …hence for all pillar indices (day spirits: p = day pillar, q = month pillar; hour spirits: p = hour pillar,
q = day pillar): the spirit depends on the two branches only, is Azure Dragon exactly on the start branch, and
advances with the branch. -/
theorem C17_twelve (p q : Int) :
    twelve p q = AlmSpec.twelve (p % 12) (q % 12) ∧
    (twelve p q = 0 ↔ p % 12 = AlmSpec.dragonStart (q % 12)) ∧
    twelve (p + 1) q = (twelve p q + 1) % 12 := by
  have t := by_branches twelve AlmSpec.twelve (fun p q => by unfold twelve; rw [branch_branch, branch_branch]) C17_twelve_table
  have ds : 0 ≤ AlmSpec.dragonStart (q % 12) ∧ AlmSpec.dragonStart (q % 12) < 12 := by
    unfold AlmSpec.dragonStart; split <;> omega
  refine ⟨t p q, ?_, ?_⟩
  · rw [t]; unfold AlmSpec.twelve; omega
  · rw [t, t]; unfold AlmSpec.twelve; omega

/-- for EVERY day number: the table formula `[10,18,26,6,14,22,2][weekday] − 7·(day branch)` with weekday
(j+1) mod 7 and pillar (j+49) mod 60 is the unbroken 28-cycle (j + 11) mod 28 — never refused. -/
theorem C17_mansion (j : Int) : mansion (weekOfJdn j) ((j + 49) % 60) = some (AlmSpec.mansion j) := by
  unfold mansion AlmSpec.mansion
  rw [C07_week j, mansionBase_of _ (by omega) (by omega)]
  simp only [Option.map]
  rw [branch_eq, indexOf_eq_emod _ 28 (by decide), indexOf_eq_emod _ 28 (by decide)]
  congr 1
  omega

/-- one mansion per day without a break, and the mansion's luminary (七曜) is that day's weekday -/
theorem C17_mansion_step (j : Int) :
    AlmSpec.mansion (j + 1) = (AlmSpec.mansion j + 1) % 28 ∧
    sevenStar (AlmSpec.mansion j) = weekOfJdn j ∧ AlmSpec.luminary (AlmSpec.mansion j) = AlmSpec.weekday j := by
  unfold AlmSpec.mansion sevenStar AlmSpec.luminary AlmSpec.weekday
  rw [C07_week, indexOf_eq_emod _ 7 (by decide), Int.tmod_eq_emod_of_nonneg (by omega)]
  omega

/-- the mansion of a civil date (sexagenary-day view), inside a tiling interval: (day number + 11) mod 28 -/
theorem C17_mansion_civil (E : Eph) (hl : ∀ y, E.leap y ≤ 12) (a b : Int) (ht : Lunar.TilesOn E a b) (Y M D : Int)
    (hY : a ≤ Y) (hY2 : Y ≤ b) (hlo : Lunar.first E ⟨a, 0⟩ ≤ jdn Y M D) (hhi : jdn Y M D < Lunar.first E ⟨b + 1, 0⟩)
    (v : SC.DayView) (h : SC.ofSolarDay E Y M D = some v) :
    mansion (weekOfJdn (jdn Y M D)) v.day = some (AlmSpec.mansion (jdn Y M D)) := by
  rw [C07_view E hl a b ht Y M D hY hY2 hlo hhi v h]
  exact C17_mansion _

/-- the six-day star (六曜) after D12: (month number + day − 2) mod 6 for every month number ≥ 1 and day ≥ 1; it restarts at each month
at (month − 1) mod 6 and advances one per day -/
theorem C17_six (m d : Int) (hm : 1 ≤ m) (hd : 1 ≤ d) :
    six m d = AlmSpec.six m d ∧ six m 1 = (m - 1) % 6 ∧ six m (d + 1) = (six m d + 1) % 6 := by
  unfold six AlmSpec.six
  rw [indexOf_eq_emod _ 6 (by decide), indexOf_eq_emod _ 6 (by decide), indexOf_eq_emod _ 6 (by decide), Int.tmod_eq_emod_of_nonneg (by omega), Int.tmod_eq_emod_of_nonneg (by omega),
    Int.tmod_eq_emod_of_nonneg (by omega)]
  omega

/-- a leap month uses its own number: the month number fed to the star is the same for the leap month (listing
position = leap) and the month it repeats (position leap − 1) -/
theorem C17_six_leap (E : Eph) (y : Int) (L : Nat) (hL : E.leap y = L) (h0 : 0 < L) :
    absMonth E ⟨y, L⟩ = L ∧ absMonth E ⟨y, L - 1⟩ = L := by
  unfold absMonth Lunar.monthWithLeap
  simp only [hL]
  constructor
  · rw [if_neg (by omega), if_pos trivial]
    omega
  · rw [if_pos (by omega)]
    omega

/-- the defect D12 as it was: with the SIGNED month the leap month differs from its twin
(2020 leap-4 day 1 gave 1, regular 4 day 1 gives 3) -/
theorem C17_six_signed_differs : sixSigned (-4) 1 = 1 ∧ six 4 1 = 3 := by decide

/-- moon phase = day − 1 (30 names), minor Ren = ((month−1) + (day−1) + hour index) mod 6, each step by step -/
theorem C17_phase_ren (m d h : Int) (hm : 1 ≤ m) (hd : 1 ≤ d) (hd2 : d ≤ 30) :
    phase d = AlmSpec.phase d ∧ renMonth m = AlmSpec.ren m 1 0 ∧ renDay m d = AlmSpec.ren m d 0 ∧
    renHour m d h = AlmSpec.ren m d ((h + 1) / 2) ∧ renDay m (d + 1) = (renDay m d + 1) % 6 := by
  unfold phase renHour renDay renMonth AlmSpec.phase AlmSpec.ren
  simp only [indexOf_eq_emod _ 6 (by decide), indexOf_eq_emod _ 30 (by decide)]
  rw [Int.tmod_eq_emod_of_nonneg (by omega)]
  refine ⟨?_, ?_, ?_, ?_, ?_⟩ <;> omega

/-- for EVERY year: the code's `63 + 3·(era index) − (sexagenary index)` is (1864 − y) mod 9: One-White in 1864
(first year of an Upper Era), one star back per year -/
theorem C17_nine_year (y : Int) :
    yearNine y = AlmSpec.yearNine y ∧ yearNine 1864 = 0 ∧ yearNine (y + 1) = (yearNine y + 8) % 9 := by
  have e : ∀ y : Int, yearNine y = (1864 - y) % 9 := by
    intro y
    unfold yearNine sixtyIdx
    rw [indexOf_eq_emod _ 9 (by decide), indexOf_eq_emod _ 9 (by decide), SC.yearPillar_eq]
    have h1 : (y - 1864) / 20 % 9 / 3 = (y - 1864) / 60 % 3 := by omega
    have h2 : (y - 4) % 60 = (y - 1864) - 60 * ((y - 1864) / 60) := by omega
    rw [h1, h2]
    omega
  refine ⟨e y, by rw [e]; decide, ?_⟩
  rw [e, e]; omega

/-- COMPLETE ENUMERATION (144 pairs): month star by year-branch group and month branch -/
theorem C17_nine_month_table : ∀ yb : Nat, yb < 12 → ∀ mb : Nat, mb < 12 →
    monthNine (yb : Int) (mb : Int) = AlmSpec.monthNine (yb : Int) (mb : Int) := by decide

/-- …hence for all pillar indices; the Yin month starts at 8-White / 5-Yellow / 2-Black by year group -/
theorem C17_nine_month (yp mp : Int) :
    monthNine yp mp = AlmSpec.monthNine (yp % 12) (mp % 12) ∧
    AlmSpec.monthNine (yp % 12) 2 = (if yp % 12 % 3 = 0 then 7 else if yp % 12 % 3 = 1 then 4 else 1) := by
  constructor
  · exact by_branches monthNine AlmSpec.monthNine (fun p q => by unfold monthNine; rw [branch_branch, branch_branch])
      C17_nine_month_table yp mp
  · unfold AlmSpec.monthNine
    dsimp only
    split <;> (try split) <;> omega

/-- one star back per month, also from the Chou month of one year to the Yin month of the next -/
theorem C17_nine_month_step (yb mb : Int) (hm : 0 ≤ mb) (hm2 : mb < 12) :
    (mb ≠ 1 → AlmSpec.monthNine yb ((mb + 1) % 12) = (AlmSpec.monthNine yb mb + 8) % 9) ∧
    AlmSpec.monthNine ((yb + 1) % 12) 2 = (AlmSpec.monthNine yb 1 + 8) % 9 := by
  unfold AlmSpec.monthNine
  dsimp only
  constructor
  · -- the year's start star is the same on both sides
    intro h
    generalize (if yb % 3 = 0 then (7 : Int) else if yb % 3 = 1 then 4 else 1) = st
    omega
  · -- the start star drops by three from one year group to the next (7 → 4 → 1 → 7)
    rw [show (yb + 1) % 12 % 3 = (yb % 3 + 1) % 3 by omega]
    have h3 : yb % 3 = 0 ∨ yb % 3 = 1 ∨ yb % 3 = 2 := by omega
    rcases h3 with h | h | h <;> rw [h] <;> decide

/-- nine star of a lunar month = the (year branch, month branch) rule applied to the lunar year's branch and the
branch of the month's listing position (a leap month counts as a position — pinned by the library's unit tests
lunar::test44..47) -/
theorem C17_nine_lunar_month (x : Lunar.Month) :
    lunarMonthNine x = some (AlmSpec.monthNine ((x.y - 4) % 12) (((x.idx : Int) + 2) % 12)) := by
  unfold lunarMonthNine
  rw [SC.lunarMonthPillar_eq, Option.map, (C17_nine_month _ _).1, SC.yearPillar_eq]
  congr 2 <;> omega

/-- nine star of the i-th sexagenary month (0 = Yin) of year y ≥ 0: year branch (y − 4) mod 12, month branch (2 + i) mod 12 -/
theorem C17_nine_sc_month (y i : Int) (hy : 0 ≤ y) (hy2 : y ≤ 9999) (hi : 0 ≤ i) (hi2 : i ≤ 11) :
    scMonthNine y i = some (AlmSpec.monthNine ((y - 4) % 12) ((2 + i) % 12)) := by
  unfold scMonthNine
  have n1 : ¬ (y < -1 ∨ y > 9999) := by omega
  have ht : (y * 12 + 0 + i) / 12 = y := by omega
  simp only [n1, if_false, SC.firstMonthPillar_eq, ht]
  rw [(C17_nine_month _ _).1, SC.yearPillar_eq, SC.cycNext_eq]
  congr 2 <;> omega

/-- the spec's star sequence between turning points: starts at One-White (0) on a winter turning point and at
Nine-Purple (8) on a summer one, one step up resp. down per day -/
theorem C17_nine_day_step (j t : Int) :
    AlmSpec.dayNine t t true = 0 ∧ AlmSpec.dayNine t t false = 8 ∧
    AlmSpec.dayNine (j + 1) t true = (AlmSpec.dayNine j t true + 1) % 9 ∧
    AlmSpec.dayNine (j + 1) t false = (AlmSpec.dayNine j t false + 8) % 9 := by
  unfold AlmSpec.dayNine
  simp only [if_true, Bool.false_eq_true, if_false]
  refine ⟨?_, ?_, ?_, ?_⟩ <;> omega

/-- the four branches of `get_nine_star` pick the LATEST turning point on or before the day among
(previous summer, winter, summer, next winter) — provided they are in chronological order — and count from it:
ascending from a winter point, descending from a summer point (the fourth branch is the repaired D26) -/
theorem C17_nine_day_offset (j sb nz sb2 : Int) (nz0 : Unit → Option Int) (hord : sb < nz ∧ nz < sb2) :
    (sb ≤ j → j < nz → (nineOffset j sb nz sb2 nz0).map (indexOf · 9) = some (AlmSpec.dayNine j sb true)) ∧
    (nz ≤ j → j < sb2 → (nineOffset j sb nz sb2 nz0).map (indexOf · 9) = some (AlmSpec.dayNine j nz false)) ∧
    (sb2 ≤ j → (nineOffset j sb nz sb2 nz0).map (indexOf · 9) = some (AlmSpec.dayNine j sb2 true)) ∧
    (j < sb → (nineOffset j sb nz sb2 nz0).map (indexOf · 9) = (nz0 ()).map fun t0 => AlmSpec.dayNine j t0 false) := by
  unfold nineOffset AlmSpec.dayNine
  simp only [if_true, Bool.false_eq_true, if_false]
  refine ⟨fun h1 h2 => ?_, fun h1 h2 => ?_, fun h1 => ?_, fun h1 => ?_⟩
  · rw [if_pos ⟨h1, h2⟩, Option.map_some, indexOf_eq_emod _ 9 (by decide)]
  · rw [if_neg (by omega), if_pos ⟨h1, h2⟩, Option.map_some, indexOf_eq_emod _ 9 (by decide)]
  · rw [if_neg (by omega), if_neg (by omega), if_pos h1, Option.map_some, indexOf_eq_emod _ 9 (by decide)]
  · rw [if_neg (by omega), if_neg (by omega), if_neg (by omega), if_pos h1, Option.map_map]
    exact congrArg (Option.map · (nz0 ())) (funext fun t => indexOf_eq_emod _ 9 (by decide))

/-- what `C17_turn` needs to know about the solstice term g: its day is a civil day of the supported range lying
inside the tiling interval [a, b] of lunar years -/
def SolsticeIn (E : Eph) (a b : Int) (g : Nat) : Prop :=
  jdnFirst ≤ E.termDay g ∧ E.termDay g ≤ jdnLast ∧ a ≤ (ofJdn (E.termDay g)).1 ∧ (ofJdn (E.termDay g)).1 ≤ b ∧
  Lunar.first E ⟨a, 0⟩ ≤ E.termDay g ∧ E.termDay g < Lunar.first E ⟨b + 1, 0⟩

theorem nearestJiazi_range (s : Int) :
    s - 29 ≤ AlmSpec.nearestJiazi s ∧ AlmSpec.nearestJiazi s ≤ s + 30 ∧ AlmSpec.pillar (AlmSpec.nearestJiazi s) = 0 := by
  unfold AlmSpec.nearestJiazi AlmSpec.pillar
  dsimp only
  split <;> omega

/-- a turning point as the code computes it (solstice day → its pillar through the lunar route → ± days) is the
Jiazi day nearest the solstice (a tie at 30 days goes forward): pillar 0, between 29 days before and 30 days
after — for every ephemeris, inside a tiling interval of lunar years -/
theorem C17_turn (E : Eph) (hl : ∀ y, E.leap y ≤ 12) (a b : Int) (ht : Lunar.TilesOn E a b) (g : Nat) (t : Int)
    (hs : SolsticeIn E a b g) (h : turn E g = some t) :
    t = AlmSpec.nearestJiazi (E.termDay g) ∧ AlmSpec.pillar t = 0 ∧
    E.termDay g - 29 ≤ t ∧ t ≤ E.termDay g + 30 := by
  obtain ⟨hs1, hs2, hY, hY2, hlo, hhi⟩ := hs
  obtain ⟨_, hj⟩ := C01_jdn_ofJdn (E.termDay g) hs1 hs2
  unfold jdnT at hj
  unfold turn at h
  dsimp only at h
  rw [Option.ite_none_left_eq_some, Option.ite_none_left_eq_some] at h
  obtain ⟨_, _, h⟩ := h
  split at h
  · cases h
  rename_i x k hr
  have hp := C07_pillar E hl a b ht _ _ _ hY hY2 (by rw [hj]; exact hlo) (by rw [hj]; exact hhi) (x, k) hr
  dsimp only at hp
  split at h
  · cases h
  rename_i p hpp
  obtain rfl := Option.some.inj (hpp.symm.trans hp)
  obtain ⟨_, e⟩ := Option.ite_none_right_eq_some.1 h
  rw [hj] at e
  obtain ⟨r1, r2, r3⟩ := nearestJiazi_range (E.termDay g)
  have en : t = AlmSpec.nearestJiazi (E.termDay g) := by
    rw [← Option.some.inj e]
    unfold AlmSpec.nearestJiazi AlmSpec.pillar
    dsimp only
    split <;> split <;> omega
  rw [en]
  exact ⟨rfl, r3, r1, r2⟩

/-- inversion: an answer of `get_nine_star` for a civil date is built from the year's three turning points
(each a `turn`), the fourth one being consulted only in the D26 branch -/
theorem C17_nine_day (E : Eph) (Y M D r : Int) (h : dayNine E Y M D = some r) :
    ∃ sb nz sb2, turn E (24 * (Y - 1)).toNat = some sb ∧ turn E ((24 * (Y - 1)).toNat + 12) = some nz ∧
      turn E ((24 * (Y - 1)).toNat + 24) = some sb2 ∧
      (nineOffset (jdn Y M D) sb nz sb2
        (fun _ => if 24 * (Y - 1) - 12 < 0 then none else turn E (24 * (Y - 1) - 12).toNat)).map (indexOf · 9) = some r := by
  unfold dayNine at h
  split at h
  · cases h
  rename_i t hy
  unfold yearTurns at hy
  dsimp only at hy
  rw [Option.ite_none_left_eq_some, Option.ite_none_left_eq_some] at hy
  obtain ⟨_, _, hy⟩ := hy
  split at hy
  · rename_i sb sb2 nz e1 e2 e3
    obtain rfl := Option.some.inj hy
    exact ⟨sb, nz, sb2, e1, e3, e2, h⟩
  · cases hy

/-- THE day nine star of a civil date (years ≥ 2), every ephemeris, inside a tiling interval, solstices at least 60
days apart: with t0 < sb < nz < sb2 the Jiazi days nearest the previous summer solstice, the winter solstice of
December Y−1, the summer solstice of Y and the winter solstice of December Y, the star counts up from One-White
at the latest winter point on or before the day, resp. down from Nine-Purple at the latest summer point. -/
theorem C17_nine_day_civil (E : Eph) (hl : ∀ y, E.leap y ≤ 12) (a b : Int) (ht : Lunar.TilesOn E a b)
    (Y M D r : Int) (hY : 2 ≤ Y)
    (h0 : SolsticeIn E a b (24 * (Y - 1) - 12).toNat) (h1 : SolsticeIn E a b (24 * (Y - 1)).toNat)
    (h2 : SolsticeIn E a b ((24 * (Y - 1)).toNat + 12)) (h3 : SolsticeIn E a b ((24 * (Y - 1)).toNat + 24))
    (hsp : E.termDay (24 * (Y - 1) - 12).toNat + 60 ≤ E.termDay (24 * (Y - 1)).toNat ∧
      E.termDay (24 * (Y - 1)).toNat + 60 ≤ E.termDay ((24 * (Y - 1)).toNat + 12) ∧
      E.termDay ((24 * (Y - 1)).toNat + 12) + 60 ≤ E.termDay ((24 * (Y - 1)).toNat + 24))
    (h : dayNine E Y M D = some r) :
    let t0 := AlmSpec.nearestJiazi (E.termDay (24 * (Y - 1) - 12).toNat)
    let sb := AlmSpec.nearestJiazi (E.termDay (24 * (Y - 1)).toNat)
    let nz := AlmSpec.nearestJiazi (E.termDay ((24 * (Y - 1)).toNat + 12))
    let sb2 := AlmSpec.nearestJiazi (E.termDay ((24 * (Y - 1)).toNat + 24))
    t0 < sb ∧ sb < nz ∧ nz < sb2 ∧
    (jdn Y M D < sb → r = AlmSpec.dayNine (jdn Y M D) t0 false) ∧
    (sb ≤ jdn Y M D → jdn Y M D < nz → r = AlmSpec.dayNine (jdn Y M D) sb true) ∧
    (nz ≤ jdn Y M D → jdn Y M D < sb2 → r = AlmSpec.dayNine (jdn Y M D) nz false) ∧
    (sb2 ≤ jdn Y M D → r = AlmSpec.dayNine (jdn Y M D) sb2 true) := by
  intro t0 sb nz sb2
  obtain ⟨sb', nz', sb2', e1, e2, e3, hr⟩ := C17_nine_day E Y M D r h
  obtain ⟨hsb, _, p3, p4⟩ := C17_turn E hl a b ht _ sb' h1 e1
  obtain ⟨hnz, _, q3, q4⟩ := C17_turn E hl a b ht _ nz' h2 e2
  obtain ⟨hsb2, _, r3, r4⟩ := C17_turn E hl a b ht _ sb2' h3 e3
  have t0r := nearestJiazi_range (E.termDay (24 * (Y - 1) - 12).toNat)
  have hord : sb' < nz' ∧ nz' < sb2' := by omega
  obtain ⟨o1, o2, o3, o4⟩ := C17_nine_day_offset (jdn Y M D) sb' nz' sb2'
    (fun _ => if 24 * (Y - 1) - 12 < 0 then none else turn E (24 * (Y - 1) - 12).toNat) hord
  rw [hsb, hnz, hsb2] at o1 o2 o3 o4 hr
  refine ⟨by omega, by omega, by omega, fun hj => ?_, fun x y => Option.some.inj (hr.symm.trans (o1 x y)),
    fun x y => Option.some.inj (hr.symm.trans (o2 x y)), fun x => Option.some.inj (hr.symm.trans (o3 x))⟩
  -- before the winter turning point the star still descends from the previous summer's (D26)
  have := hr.symm.trans (o4 hj)
  rw [if_neg (by omega)] at this
  obtain ⟨t, ht0, e⟩ := Option.map_eq_some_iff.1 this.symm
  rw [← e, (C17_turn E hl a b ht _ t h0 ht0).1]

/-- range edge (class D19): in civil year 1 both getters refuse — they first construct the winter solstice of
December year 0, which the library cannot represent (listed known findings C17-year1-*) -/
theorem C17_year1_refused (M D : Int) : dayNine realEph 1 M D = none ∧ ∀ j, hourAsc realEph 1 j = none := by
  have h0 : realEph.termDay 0 = 0 := (realEph_term_repr 0 (by omega)).2 (Or.inl rfl)
  constructor
  · unfold dayNine yearTurns
    simp [h0]
  · intro j
    unfold hourAsc
    simp [h0]

/-- for all day pillars and hour indices: start star by half-year and day-branch group (Zi-Wu-Mao-You 1/9,
Chen-Xu-Chou-Wei 4/6, Yin-Shen-Si-Hai 7/3), one star per double-hour, up in the ascending half, down otherwise -/
theorem C17_nine_hour (asc : Bool) (dp e : Int) :
    hourNineOf asc dp e = AlmSpec.hourNine (if asc then 0 else 12) (dp % 12) e ∧
    hourNineOf asc dp (e + 1) = (hourNineOf asc dp e + (if asc then 1 else 8)) % 9 := by
  unfold hourNineOf hourStart AlmSpec.hourNine
  rw [branch_eq]
  have e3 : dp % 12 % 3 = dp % 3 := by omega
  cases asc <;> simp only [indexOf_eq_emod _ 9 (by decide), e3, if_true, if_false, Bool.false_eq_true] <;>
    (constructor <;> (repeat' split) <;> omega)

/-- the half-year test after D25: ascending exactly between the winter and the summer solstice day of the civil
year and again from the December solstice day on -/
theorem C17_hour_asc (E : Eph) (Y j : Int) (b : Bool) (h : hourAsc E Y j = some b) :
    (b = true ↔ (E.termDay (24 * (Y - 1)).toNat ≤ j ∧ j < E.termDay ((24 * (Y - 1)).toNat + 12)) ∨
      E.termDay ((24 * (Y - 1)).toNat + 24) ≤ j) := by
  unfold hourAsc at h
  dsimp only at h
  rw [Option.ite_none_left_eq_some, Option.ite_none_left_eq_some] at h
  rw [← Option.some.inj h.2.2, decide_eq_true_eq]

/-- …which is: the solar term the day lies in is one of the twelve from the winter solstice up to (not including)
the summer solstice — whenever term days are non-decreasing over the 37 terms from the year's first solstice and
the day's term is one of them (true for every date of years 1..9998 on the extracted table) -/
theorem C17_hour_asc_term (E : Eph) (Y j : Int) (g : Nat) (b : Bool)
    (hmono : ∀ p q : Nat, (24 * (Y - 1)).toNat ≤ p → p ≤ q → q ≤ (24 * (Y - 1)).toNat + 36 → E.termDay p ≤ E.termDay q)
    (hterm : E.termDay g ≤ j ∧ j < E.termDay (g + 1))
    (hrange : (24 * (Y - 1)).toNat ≤ g ∧ g < (24 * (Y - 1)).toNat + 36)
    (h : hourAsc E Y j = some b) : (b = true ↔ g % 24 < 12) := by
  rw [C17_hour_asc E Y j b h]
  generalize hG : (24 * (Y - 1)).toNat = G at *
  have hG24 : G % 24 = 0 := by omega
  -- the day's term lies in one of the three stretches the test distinguishes
  by_cases c1 : g < G + 12
  · have m1 := hmono G g (Nat.le_refl _) hrange.1 (by omega)
    have m2 := hmono (g + 1) (G + 12) (by omega) (by omega) (by omega)
    omega
  · by_cases c2 : g < G + 24
    · have m1 := hmono (G + 12) g (by omega) (by omega) (by omega)
      have m2 := hmono (g + 1) (G + 24) (by omega) (by omega) (by omega)
      omega
    · have m1 := hmono (G + 24) g (by omega) (by omega) (by omega)
      omega

/-- the sexagenary-hour view feeds the formula with the day pillar rolled at 23:00 and hour index 0 for 23:xx;
the lunar-hour view with the lunar day's own pillar and index (hour+1)/2 mod 12 — so at 23:xx the lunar-hour view
repeats the star of the day's first hour (pinned by the library's unit test nine::test11), while the
sexagenary-hour view already shows the next day's first star -/
theorem C17_nine_hour_views (E : Eph) (Y M D h : Int) (v : SC.HourView) (sd : Int × Int × Int) (lp : Int)
    (hh : 0 ≤ h) (hh2 : h ≤ 23) :
    schNine E Y M D h v = (hourAsc E Y (jdn Y M D)).map (fun asc => hourNineOf asc v.day (if h = 23 then 0 else (h + 1) / 2)) ∧
    lhNine E sd lp h = (hourAsc E sd.1 (jdn sd.1 sd.2.1 sd.2.2)).map (fun asc => hourNineOf asc lp ((h + 1) / 2 % 12)) ∧
    (h = 23 → (h + 1) / 2 % 12 = 0) := by
  unfold schNine lhNine
  have e1 : Int.tmod (if h = 23 then 0 else (h + 1) / 2) 12 = (if h = 23 then 0 else (h + 1) / 2) := by
    rw [Int.tmod_eq_emod_of_nonneg (by split <;> omega)]; split <;> omega
  have e2 : Int.tmod ((h + 1) / 2) 12 = (h + 1) / 2 % 12 := Int.tmod_eq_emod_of_nonneg (by omega)
  rw [e1, e2]
  exact ⟨rfl, rfl, by omega⟩

/-- …so the hypotheses of `C17_hour_asc_term` (monotone term days) and `C17_nine_day_civil` (solstices ≥ 60 days
apart) hold on the extracted table for every civil year 2..9998 -/
theorem C17_real_hyps (Y : Int) (hY : 2 ≤ Y) (hY2 : Y ≤ 9998) :
    (∀ p q : Nat, (24 * (Y - 1)).toNat ≤ p → p ≤ q → q ≤ (24 * (Y - 1)).toNat + 36 → realEph.termDay p ≤ realEph.termDay q) ∧
    realEph.termDay (24 * (Y - 1) - 12).toNat + 60 ≤ realEph.termDay (24 * (Y - 1)).toNat ∧
    realEph.termDay (24 * (Y - 1)).toNat + 60 ≤ realEph.termDay ((24 * (Y - 1)).toNat + 12) ∧
    realEph.termDay ((24 * (Y - 1)).toNat + 12) + 60 ≤ realEph.termDay ((24 * (Y - 1)).toNat + 24) := by
  refine ⟨fun p q h1 h2 h3 => ?_, ?_, ?_, ?_⟩
  · have := (Cont.term_span realEph_termFacts p q (by omega) h2 (by omega)).1; omega
  · have := (Cont.term_span realEph_termFacts (24 * (Y - 1) - 12).toNat (24 * (Y - 1)).toNat (by omega) (by omega) (by omega)).1; omega
  · have := (Cont.term_span realEph_termFacts (24 * (Y - 1)).toNat ((24 * (Y - 1)).toNat + 12) (by omega) (by omega) (by omega)).1; omega
  · have := (Cont.term_span realEph_termFacts ((24 * (Y - 1)).toNat + 12) ((24 * (Y - 1)).toNat + 24) (by omega) (by omega) (by omega)).1; omega

/-- 2024-02-10 (Jia-Chen day, Bing-Yin month, lunar 2024-1-1): officer Man (2), spirit 4, mansion Di (2) whose
luminary Saturn (6) is the weekday Saturday (6), day star Five-Yellow (4), six-day star 0, phase 0, minor Ren 0 -/
example : (dayOut realEph 2024 2 10).map (fun o => [o.duty, o.twelve, o.mansion, o.luminary, o.week, o.nine.getD (-1), o.lSix, o.lPhase, o.lRen])
    = some [2, 4, 2, 6, 6, 4, 0, 0, 0] := by rw [realEph_eq_quick]; decide +kernel

/-- the turning points of 2024 as day numbers: Jiazi days 2023-12-20 + 12 = 2024-01-01 (winter), +180 (summer), +360 -/
example : yearTurns realEph 2024 = some (2460311, 2460491, 2460671) := by rw [realEph_eq_quick]; decide +kernel

/-- the hypotheses of `C17_nine_day_civil` are satisfiable on the extracted data: the four solstices around 2024
lie inside the tiling interval 240..9998 and are more than 60 days apart -/
example : SolsticeIn realEph 240 9998 48540 ∧ SolsticeIn realEph 240 9998 48552 ∧
    SolsticeIn realEph 240 9998 48564 ∧ SolsticeIn realEph 240 9998 48576 ∧
    realEph.termDay 48540 + 60 ≤ realEph.termDay 48552 ∧ (24 * ((2024 : Int) - 1)).toNat = 48552 := by
  unfold SolsticeIn; rw [realEph_eq_quick]; decide +kernel

/-- an hour after the December solstice ascends (D25): 2024-12-25 01:30 has star index 7, one above 00:30 -/
example : (hourOut realEph 2024 12 25 1 30 0).map (fun o => [o.nine.getD (-1), o.twelve]) = some [7, 7] := by rw [realEph_eq_quick]; decide +kernel

end Tyme

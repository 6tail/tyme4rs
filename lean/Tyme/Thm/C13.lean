import Tyme.Lemmas.Containers
import Tyme.Lemmas.ScmDays
import Tyme.Thm.C07
import Tyme.Lemmas.ScmTotal
import Tyme.Facts.Months
import Tyme.Facts.C13Win
import Tyme.Thm.C02b
/-!
C13 — containers list exactly their parts: year, half, season, month, day, hour. Property theorems only (`C13_*`);
helpers live in `Tyme/Lemmas/Containers.lean` (the lists and loops), `ScmDays`, `ScmTotal`.

Model: `Tyme.Cont` (Model/Containers.lean) — every list-returning accessor written as the loop the code runs, AFTER the two
repairs fixes/C13-solar-month-days-1582.diff (D9) and fixes/C13-lunar-year-months-9999.diff (D10).
Spec: `Tyme.Civil` (Spec/Containers.lean): parts selected by membership, dates that exist (`Civil.valid`), slot starts.
The lunar and sexagenary statements hold for an ARBITRARY ephemeris `E` (with leap month ≤ 12 where month numbering matters).
-/
namespace Tyme
open Cont

/-- Nesting arithmetic: month m lies in exactly one season, (m−1)/3; season s in exactly one half-year, s/2;
a month lies in a half-year iff its season does. -/
theorem C13_nesting (m s h : Int) :
    (Civil.inSeason m s = true ↔ s = (m - 1) / 3) ∧ (Civil.seasonInHalf s h = true ↔ h = s / 2) ∧
    (Civil.inHalf m h = true ↔ Civil.seasonInHalf ((m - 1) / 3) h = true) := by
  unfold Civil.inSeason Civil.seasonInHalf Civil.inHalf
  simp only [decide_eq_true_eq]
  omega

/-- A civil year lists its 12 months, 4 seasons and 2 half-years, in order — for every year 1..9999. -/
theorem C13_year_parts (y : Int) (hy : 1 ≤ y ∧ y ≤ 9999) :
    yearMonths y = some (Civil.monthsOfYear y) ∧ (Civil.monthsOfYear y).length = 12 ∧
    yearSeasons y = some (Civil.seasonsOfYear y) ∧ (Civil.seasonsOfYear y).length = 4 ∧
    yearHalves y = some (Civil.halvesOfYear y) ∧ (Civil.halvesOfYear y).length = 2 := by
  have h0 : yearOk y = true := by unfold yearOk; simp [hy]
  refine ⟨yearMonths_eq y hy, by simp [Civil.monthsOfYear, Civil.upTo], ?_, by simp [Civil.seasonsOfYear, Civil.below], ?_,
    by simp [Civil.halvesOfYear, Civil.below]⟩
  · unfold yearSeasons Civil.seasonsOfYear
    rw [h0, below_eq]
    exact collect_map_some _ _ _ fun i hi => seasonNew_ok y i hy (by rw [mem_rangeI] at hi; omega)
  · unfold yearHalves Civil.halvesOfYear
    rw [h0, below_eq]
    exact collect_map_some _ _ _ fun i hi => halfNew_ok y i hy (by rw [mem_rangeI] at hi; omega)

/-- A half-year lists exactly the 6 months and the 2 seasons that lie in it, in order. -/
theorem C13_half_parts (y h : Int) (hy : 1 ≤ y ∧ y ≤ 9999) (hh : 0 ≤ h ∧ h ≤ 1) :
    halfMonths y h = some (Civil.monthsOfHalf y h) ∧ (Civil.monthsOfHalf y h).length = 6 ∧
    halfSeasons y h = some (Civil.seasonsOfHalf y h) ∧ (Civil.seasonsOfHalf y h).length = 2 := by
  have hm := block_parts (monthNew y) y 1 13 (fun i h1 h2 => monthNew_ok y i hy ⟨h1, by omega⟩) (fun m => Civil.inHalf m h)
    1 6 (h * 6) (by omega) (by omega) (by omega) (fun i _ _ => by unfold Civil.inHalf; rw [decide_eq_true_eq]; omega)
  have hs := block_parts (seasonNew y) y 0 4 (fun i h1 h2 => seasonNew_ok y i hy ⟨h1, by omega⟩) (fun s => Civil.seasonInHalf s h)
    0 2 (h * 2) (by omega) (by omega) (by omega) (fun i _ _ => by unfold Civil.seasonInHalf; rw [decide_eq_true_eq]; omega)
  unfold halfMonths halfSeasons Civil.monthsOfHalf Civil.seasonsOfHalf
  rw [halfNew_ok y h hy hh, upTo_eq, below_eq]
  exact ⟨hm.1, hm.2, hs.1, hs.2⟩

/-- A season lists exactly the 3 months that lie in it, in order. -/
theorem C13_season_parts (y s : Int) (hy : 1 ≤ y ∧ y ≤ 9999) (hs : 0 ≤ s ∧ s ≤ 3) :
    seasonMonths y s = some (Civil.monthsOfSeason y s) ∧ (Civil.monthsOfSeason y s).length = 3 := by
  have hm := block_parts (monthNew y) y 1 13 (fun i h1 h2 => monthNew_ok y i hy ⟨h1, by omega⟩) (fun m => Civil.inSeason m s)
    1 3 (s * 3) (by omega) (by omega) (by omega) (fun i _ _ => by unfold Civil.inSeason; rw [decide_eq_true_eq]; omega)
  unfold seasonMonths Civil.monthsOfSeason
  rw [seasonNew_ok y s hy hs, upTo_eq]
  exact hm

/-- `get_season` of a month is the season that contains it. -/
theorem C13_month_season (y m : Int) (hy : 1 ≤ y ∧ y ≤ 9999) (hm : 1 ≤ m ∧ m ≤ 12) :
    monthSeason y m = some (y, (m - 1) / 3) ∧ Civil.inSeason m ((m - 1) / 3) = true ∧
    (y, m) ∈ Civil.monthsOfSeason y ((m - 1) / 3) := by
  have hin : Civil.inSeason m ((m - 1) / 3) = true := by
    unfold Civil.inSeason; simp only [decide_eq_true_eq]; omega
  refine ⟨?_, hin, ?_⟩
  · unfold monthSeason
    rw [monthNew_ok y m hy hm]
    exact seasonNew_ok y _ hy (by omega)
  · unfold Civil.monthsOfSeason
    simp only [List.mem_map, List.mem_filter, mem_upTo]
    exact ⟨m, ⟨⟨hm.1, by omega⟩, hin⟩, rfl⟩

/-- For a year outside 1..9999 nothing is listed, whatever the index: every civil container call is refused. -/
theorem C13_civil_refused (y : Int) (hy : y < 1 ∨ 9999 < y) (i : Int) :
    yearMonths y = none ∧ yearSeasons y = none ∧ yearHalves y = none ∧ halfMonths y i = none ∧ halfSeasons y i = none ∧
    seasonMonths y i = none ∧ monthSeason y i = none ∧ monthDays y i = none := by
  have h0 : yearOk y = false := by unfold yearOk; simp; omega
  simp [yearMonths, yearSeasons, yearHalves, halfMonths, halfSeasons, seasonMonths, monthSeason, monthDays, halfNew, seasonNew,
    monthNew, h0]

/-- `SolarMonth::get_days` (after the D9 repair) lists exactly the dates that exist in the month, by day number, without gaps
in the day count, and their number is `get_day_count` — every month of every year 1..9999, October 1582 included. -/
theorem C13_month_days (y m : Int) (hy : 1 ≤ y ∧ y ≤ 9999) (hm : 1 ≤ m ∧ m ≤ 12) :
    monthDays y m = some (Civil.datesOfMonth y m) ∧
    ((Civil.datesOfMonth y m).length : Int) = monthLen y m ∧
    (∀ a, a ∈ Civil.datesOfMonth y m ↔ a.1 = y ∧ a.2.1 = m ∧ Civil.valid y m a.2.2 = true) ∧
    (∀ i (h : i < (Civil.datesOfMonth y m).length), jdnT (Civil.datesOfMonth y m)[i] = jdn y m 1 + i) :=
  ⟨monthDays_eq y m hy hm, datesOfMonth_length y m hy hm, mem_datesOfMonth y m, datesOfMonth_consec y m hy hm⟩

/-- October 1582 explicitly: 21 days, 1..4 then 15..31. -/
theorem C13_month_days_1582 : monthDays 1582 10 = some
    [(1582,10,1),(1582,10,2),(1582,10,3),(1582,10,4),(1582,10,15),(1582,10,16),(1582,10,17),(1582,10,18),(1582,10,19),(1582,10,20),
     (1582,10,21),(1582,10,22),(1582,10,23),(1582,10,24),(1582,10,25),(1582,10,26),(1582,10,27),(1582,10,28),(1582,10,29),(1582,10,30),(1582,10,31)] := by
  decide

/-- The month lists of a year, one after the other, are exactly the dates of that year: their number is `get_day_count`,
the i-th listed day has `get_index_in_year` = i, and every existing date of the year is listed. -/
theorem C13_index_consistent (y : Int) (hy : 1 ≤ y ∧ y ≤ 9999) :
    ∃ L, yearDays y = some L ∧ (L.length : Int) = yearLen y ∧
      (∀ i (h : i < L.length), dayIndexInYear L[i] = i ∧ L[i].1 = y ∧ Civil.validT L[i] = true) ∧
      (∀ m d, Civil.valid y m d = true → (y, m, d) ∈ L) := by
  obtain ⟨run, len⟩ := yearDays_run y hy
  refine ⟨_, yearDays_eq y hy, len, ?_, ?_⟩
  · intro i h
    have hj := run i h
    have hmem := List.getElem_mem h
    simp only [List.mem_flatten, List.mem_map] at hmem
    obtain ⟨l, ⟨m, _, rfl⟩, hl⟩ := hmem
    obtain ⟨e1, e2, e3⟩ := (mem_datesOfMonth y m _).1 hl
    refine ⟨?_, e1, ?_⟩
    · have e : ∀ a : Int × Int × Int, dayIndexInYear a = jdnT a - jdn a.1 1 1 := fun _ => rfl
      rw [e, hj, e1]; omega
    · unfold Civil.validT; rw [e1, e2]; exact e3
  · intro m d hv
    simp only [List.mem_flatten, List.mem_map]
    obtain ⟨_, _, h3, h4, _⟩ := (valid_iff y m d).1 hv
    exact ⟨_, ⟨m, (mem_upTo 12 m).2 ⟨h3, by omega⟩, rfl⟩, (mem_datesOfMonth y m _).2 ⟨rfl, rfl, hv⟩⟩

/-- `LunarYear::get_months` (after the D10 repair) = the listed months ⟨y,0⟩ … ⟨y,cnt−1⟩ in order: 12, or 13 when the
year has a leap month — every lunar year 0..9999 (9999 included), any ephemeris with leap month ≤ 12. -/
theorem C13_lunar_year (E : Eph) (hl : ∀ y, E.leap y ≤ 12) (y : Int) (hy : 0 ≤ y ∧ y ≤ 9999) :
    lunarYearMonths E y = some ((List.range (E.cnt y)).map fun i => (⟨y, i⟩ : Lunar.Month)) ∧
    (E.cnt y = 12 ∨ E.cnt y = 13) :=
  ⟨lunarYearMonths_eq E hl y hy, Lunar.cnt_cases E y⟩

/-- years outside 0..9999 list nothing (−1 is accepted by `LunarYear::new` but has no representable month) -/
theorem C13_lunar_year_refused (E : Eph) (y : Int) (hy : y < 0 ∨ 9999 < y) : lunarYearMonths E y = none := by
  unfold lunarYearMonths Lunar.fromYm
  by_cases h : y < -1 ∨ y > 9999
  · simp [h]
  · have : y < 0 ∨ y > 9999 := by omega
    simp [h, this]

/-- `LunarMonth::get_days` = days 1, 2, …, day_count of that month. -/
theorem C13_lunar_month (E : Eph) (hl : ∀ y, E.leap y ≤ 12) (x : Lunar.Month) (hx : Lunar.WF E x) :
    lunarMonthDays E x = some ((Civil.upTo (Lunar.len E x).toNat).map fun d => (x, d)) ∧
    (0 ≤ Lunar.len E x → (((Civil.upTo (Lunar.len E x).toNat).map fun d => (x, d)).length : Int) = Lunar.len E x) := by
  refine ⟨lunarMonthDays_eq E hl x hx, ?_⟩
  intro h
  rw [List.length_map, upTo_eq, rangeI_length]; omega

/-- `LunarDay::get_hours` = the 13 double-hour slots of that lunar day, 00:00, 01:00, 03:00, …, 23:00 (slot numbers 0..12). -/
theorem C13_lunar_hours (E : Eph) (hl : ∀ y, E.leap y ≤ 12) (x : Lunar.Month) (hx : Lunar.WF E x) (d : Int)
    (hd : 1 ≤ d ∧ d ≤ Lunar.len E x) :
    lunarDayHours E x d = some (Civil.slotStarts.map fun h => (⟨x, d, h, 0, 0⟩ : LHour)) ∧
    Civil.slotStarts = [0, 1, 3, 5, 7, 9, 11, 13, 15, 17, 19, 21, 23] ∧
    Civil.slotStarts.map (fun h => (h + 1) / 2) = [0, 1, 2, 3, 4, 5, 6, 7, 8, 9, 10, 11, 12] :=
  ⟨lunarDayHours_eq E hl x hx d hd, slotStarts_eq, by decide⟩

/-- `SixtyCycleDay::get_hours`: whenever it returns, it returns 12 existing instants, slot k starting 3600 s before the civil
midnight of the day plus 7200·k seconds (23:00 of the previous civil day, 01:00, …, 21:00), each carrying exactly the view
`SixtyCycleHour::from_solar_time` gives that instant. -/
theorem C13_scd_hours (E : Eph) (Y M D : Int) (L : List (Time × SC.HourView)) (h : scdHours E Y M D = some L) :
    L.length = 12 ∧ ∀ i (hi : i < L.length), Clock.valid L[i].1 = true ∧
      secs L[i].1 = 86400 * jdn Y M D - 3600 + 7200 * (i : Int) ∧ viewOfTime E L[i].1 = some L[i].2 :=
  let ⟨_, _, _, _, hs⟩ := scdHours_spec E Y M D L h
  hs

/-- …and that instant is (previous day, 23:00:00) for slot 0 and (the day itself, 2k−1 : 00 : 00) for slot k ≥ 1. -/
theorem C13_scd_hours_clock (E : Eph) (Y M D : Int) (L : List (Time × SC.HourView)) (hv : Civil.valid Y M D = true)
    (h : scdHours E Y M D = some L) (i : Nat) (hi : i < L.length) (h1 : 1 ≤ i) :
    L[i].1 = ⟨(Y, M, D), 2 * (i : Int) - 1, 0, 0⟩ :=
  scdHours_clock E Y M D L hv h i hi h1

/-- Inside an interval [a, b] of lunar years that tile: each of the twelve hours listed for the sexagenary day of civil date
(Y, M, D) carries that day's own pillar, (day number + 49) mod 60 (C07) — the 23:00 slot of the PREVIOUS civil day included,
so all twelve belong to this sexagenary day — and the hour branch of slot i is i (Zi, Chou, …, Hai): the list is the day's
twelve double hours, each once, in order. -/
theorem C13_scd_hours_pillars (E : Eph) (hl : ∀ y, E.leap y ≤ 12) (a b : Int) (ht : Lunar.TilesOn E a b) (Y M D : Int)
    (hv : Civil.valid Y M D = true) (hYa : a + 1 ≤ Y) (hYb : Y ≤ b)
    (hlo : Lunar.first E ⟨a, 0⟩ + 1 ≤ jdn Y M D) (hhi : jdn Y M D < Lunar.first E ⟨b + 1, 0⟩)
    (L : List (Time × SC.HourView)) (h : scdHours E Y M D = some L) :
    ∀ i (hi : i < L.length), L[i].2.day = (jdn Y M D + 49) % 60 ∧ L[i].2.hour % 12 = (i : Int) := by
  obtain ⟨p, pv, pj, ⟨_, e0⟩, l12, hs⟩ := scdHours_spec E Y M D L h
  intro i hi
  obtain ⟨_, _, tview⟩ := hs i hi
  by_cases hi0 : i = 0
  · -- 23:00 of the previous civil day, which lies in year Y − 1 or Y
    subst hi0
    rw [e0] at tview
    obtain ⟨py, pm, pd⟩ := p
    have pj' : jdn py pm pd = jdn Y M D - 1 := pj
    obtain ⟨n1, n2, _⟩ := year_near Y M D py pm pd hv pv (by omega) (by omega)
    obtain ⟨d1, d2⟩ := hourView_pillars E hl a b ht py pm pd 23 0 0 (by omega) (by omega) (by omega) (by omega) _ tview
    rw [if_pos rfl] at d1
    exact ⟨by rw [d1]; omega, by rw [d2]; rfl⟩
  · rw [scdHours_clock E Y M D L hv h i hi (by omega)] at tview
    obtain ⟨d1, d2⟩ := hourView_pillars E hl a b ht Y M D (2 * (i : Int) - 1) 0 0 (by omega) hYb (by omega) hhi _ tview
    have : ¬ (2 * (i : Int) - 1 = 23) := by omega
    rw [if_neg this] at d1
    exact ⟨d1, by rw [d2]; omega⟩

/-- `SixtyCycleYear::get_months` (every accepted year −1..9999; floor carry after the C11 fix): twelve months of the same year; month k has the pillar of the first month advanced by k
(branch Yin + k, stem by Five Tigers: C08_five_tigers), index in year k, and starts at Jie 24(y−1) + 3 + 2k. -/
theorem C13_scy_months (y : Int) (hy : -1 ≤ y ∧ y ≤ 9999) :
    ∃ fm, SC.firstMonthPillar y = some fm ∧ fm % 12 = 2 ∧
      scyMonths y = some ((List.range 12).map fun (k : Nat) => (⟨y, SC.cycNext fm k⟩ : SCMonth)) ∧
      ∀ k : Nat, k < 12 → scmIndexInYear (SC.cycNext fm k) = k ∧ scmJie ⟨y, SC.cycNext fm k⟩ = 24 * (y - 1) + 3 + 2 * (k : Int) := by
  have f1 := SC.firstMonthPillar_eq y
  exact ⟨_, f1, by omega, scyMonths_eq y hy _ f1, fun k hk => scmJie_month y k hk _ f1⟩

/-- `SixtyCycleMonth::get_days`, the loop: whatever it returns is a run of consecutive existing civil days starting at the
day it was started on, every listed day lies in this sexagenary month (same year pillar and month pillar — the code's string
comparison), and the day after the last listed one exists and lies in a different month. So the list is exactly the maximal
run of days of this month from the start day: nothing missing before the first change, nothing listed after it. -/
theorem C13_scm_loop (E : Eph) (x : SCMonth) (f : Nat) (d : Int × Int × Int) (L : List (Int × Int × Int))
    (h : scmDaysLoop E x (fun a => dayNext a 1) f d = some L) (hv : Civil.validT d = true) :
    (∀ i (hi : i < L.length), Civil.validT L[i] = true ∧ jdnT L[i] = jdnT d + i ∧
        ∃ v, SC.ofSolarDay E L[i].1 L[i].2.1 L[i].2.2 = some v ∧ scmSame x v = true) ∧
    (∃ e v, Civil.validT e = true ∧ jdnT e = jdnT d + L.length ∧ SC.ofSolarDay E e.1 e.2.1 e.2.2 = some v ∧ scmSame x v = false) := by
  obtain ⟨c1, c2, c3⟩ := scmDaysLoop_spec E x f d L h hv
  refine ⟨fun i hi => ?_, c3⟩
  obtain ⟨v1, v2⟩ := c2 _ (List.getElem_mem hi)
  exact ⟨v1, c1 i hi, v2⟩

/-- The loop has no bound of its own in the code; the model's fuel never cuts it short: with more fuel than days left in
0001..9999 the result does not depend on the fuel (and `scmFuel` exceeds the number of days of the whole range). -/
theorem C13_scm_fuel (E : Eph) (x : SCMonth) (f : Nat) (d : Int × Int × Int) (hv : Civil.validT d = true)
    (hf : jdnLast - jdnT d < f) :
    scmDaysLoop E x (fun a => dayNext a 1) (f + 1) d = scmDaysLoop E x (fun a => dayNext a 1) f d ∧
    jdnLast - jdnFirst + 1 < (scmFuel : Int) :=
  ⟨scmDaysLoop_fuel E x f d hv hf, by decide⟩

/-- The start day: the civil day of the month's Jie instant (term 24(y−1) + 3 + 2·index). -/
theorem C13_scm_first (E : Eph) (x : SCMonth) (d : Int × Int × Int) (h : scmFirstDay E x = some d) :
    0 ≤ scmJie x ∧ Civil.validT d = true ∧ jdnT d = E.termDay (scmJie x).toNat := by
  obtain ⟨a, _, _, r1, r2, rfl⟩ := (scmFirstDay_iff E x d).1 h
  exact ⟨a, C01_jdn_ofJdn _ r1 r2⟩

/-- TABLE FACTS (complete enumeration, kernel-checked on the tables re-extracted from /repo): all 240,000 term records
satisfy `termWin` (Lichun 24..36 days after January 1, the winter solstice ≥ 9 days before January 1), all 10,000
lunar-year records satisfy `yearWin` (lunar new year between 5 days before and 59 days after January 1). -/
theorem C13_window_facts : Packed.allRec 72 termWin Gen.termsChunks = true ∧ Packed.allRec 1024 yearWin Gen.monthsChunks = true :=
  ⟨terms_win13_fact, years_win_fact⟩

/-- the extracted ephemeris satisfies the named term facts (C06 table facts + C13_window_facts) -/
theorem C13_termFacts_real : TermFacts realEph := realEph_termFacts

/-- …and the named new-year facts -/
theorem C13_newYearFacts_real : NewYearFacts realEph := realEph_newYearFacts

/-- END-TO-END for any ephemeris with the named facts: inside an interval [a, b] of lunar years that tile
(a = 0 or a < y, y + 1 ≤ b ≤ 9998), `SixtyCycleMonth::get_days` of month k (0..11) of sexagenary year y ≥ 1 — whenever it
returns — returns exactly the civil days from the day of the month's Jie (term 24(y−1)+3+2k) to the day before the day of the
next Jie (two terms later), in order: as many as the two Jie days are apart, the i-th being Jie day + i. -/
theorem C13_scm_days (E : Eph) (hl : ∀ y, E.leap y ≤ 12) (tf : TermFacts E) (nf : NewYearFacts E) (a b : Int)
    (ha0 : 0 ≤ a) (hb9 : b + 1 ≤ 9999) (ht : Lunar.TilesOn E a b) (y : Int) (k : Nat) (hk : k < 12) (hy1 : 1 ≤ y)
    (hay : a = 0 ∨ a + 1 ≤ y) (hyb : y + 1 ≤ b) (fm : Int) (hfm : SC.firstMonthPillar y = some fm)
    (L : List (Int × Int × Int)) (h : scmDays E ⟨y, SC.cycNext fm k⟩ = some L) :
    (L.length : Int) = E.termDay ((24 * (y - 1) + 3 + 2 * (k : Int)).toNat + 2) - E.termDay (24 * (y - 1) + 3 + 2 * (k : Int)).toNat ∧
    ∀ i (hi : i < L.length), Civil.validT L[i] = true ∧ jdnT L[i] = E.termDay (24 * (y - 1) + 3 + 2 * (k : Int)).toNat + i := by
  refine scmDays_spec E tf y k ⟨by omega, by omega⟩ hk fm hfm L h ?_
  intro Y M D hv h1 h2
  obtain ⟨q1, q2, q3, q4, _⟩ := scm_day_in_interval tf nf a b ha0 hb9 y hy1 hay hyb _ (by omega) (by omega) Y M D hv h1 h2
  exact lunarYearOK_of_tiles E hl tf nf a b hb9 ht Y M D hv q1 q2 q3 q4

/-- …instantiated for the current tree's data: every sexagenary month of the years 1..6, 10..21, 26..234, 241..9997
(the lunar years around it tile: C03; the remaining years touch the D4 reform junctions or the last year and are
covered by the exhaustive sweep only). -/
theorem C13_scm_days_real (y : Int) (k : Nat) (hk : k < 12)
    (hy : (1 ≤ y ∧ y ≤ 6) ∨ (10 ≤ y ∧ y ≤ 21) ∨ (26 ≤ y ∧ y ≤ 234) ∨ (241 ≤ y ∧ y ≤ 9997))
    (fm : Int) (hfm : SC.firstMonthPillar y = some fm) (L : List (Int × Int × Int))
    (h : scmDays realEph ⟨y, SC.cycNext fm k⟩ = some L) :
    (L.length : Int) = realEph.termDay ((24 * (y - 1) + 3 + 2 * (k : Int)).toNat + 2) - realEph.termDay (24 * (y - 1) + 3 + 2 * (k : Int)).toNat ∧
    ∀ i (hi : i < L.length), Civil.validT L[i] = true ∧ jdnT L[i] = realEph.termDay (24 * (y - 1) + 3 + 2 * (k : Int)).toNat + i := by
  exact C13_scm_days realEph realEph_leap_le realEph_termFacts realEph_newYearFacts (y - 1) (y + 1) (by omega) (by omega)
    (realEph_tiles_around y hy) y k hk (by omega) (Or.inr (by omega)) (by omega) fm hfm L h

/-- TOTAL CORRECTNESS for any ephemeris with the named facts: inside a tiling interval (same side conditions as
`C13_scm_days`) `SixtyCycleMonth::get_days` DOES return — `get_lunar_day`'s guess-and-walk (fuel 40), `get_term_day`'s walk
(fuel 30), the pillar look-ups and `SolarDay::next` all succeed on every day it touches, and the loop stops within the fuel —
and the list is exactly [Jie day g₀, Jie day g₀ + 2). -/
theorem C13_scm_days_total (E : Eph) (hl : ∀ y, E.leap y ≤ 12) (tf : TermFacts E) (nf : NewYearFacts E)
    (hF1 : 1721424 ≤ E.mFirst 1 0) (a b : Int) (ha0 : 0 ≤ a) (hb9 : b + 1 ≤ 9999) (ht : Lunar.TilesOn E a b)
    (y : Int) (k : Nat) (hk : k < 12) (hy1 : 1 ≤ y) (hay : a = 0 ∨ a + 1 ≤ y) (hyb : y + 1 ≤ b)
    (fm : Int) (hfm : SC.firstMonthPillar y = some fm) :
    ∃ L, scmDays E ⟨y, SC.cycNext fm k⟩ = some L ∧
      (L.length : Int) = E.termDay ((24 * (y - 1) + 3 + 2 * (k : Int)).toNat + 2) - E.termDay (24 * (y - 1) + 3 + 2 * (k : Int)).toNat ∧
      ∀ i (hi : i < L.length), Civil.validT L[i] = true ∧ jdnT L[i] = E.termDay (24 * (y - 1) + 3 + 2 * (k : Int)).toNat + i := by
  obtain ⟨L, h⟩ := scmDays_total E hl tf nf hF1 a b ha0 hb9 ht y k hk hy1 hay hyb fm hfm
  exact ⟨L, h, C13_scm_days E hl tf nf a b ha0 hb9 ht y k hk hy1 hay hyb fm hfm L h⟩

/-- …for the current tree's data: every month k = 0..11 of every sexagenary year 1..6, 10..21, 26..234, 241..9997 is listed,
and the list is exactly the days from its Jie day to the day before the next Jie day. -/
theorem C13_scm_days_total_real (y : Int) (k : Nat) (hk : k < 12)
    (hy : (1 ≤ y ∧ y ≤ 6) ∨ (10 ≤ y ∧ y ≤ 21) ∨ (26 ≤ y ∧ y ≤ 234) ∨ (241 ≤ y ∧ y ≤ 9997)) :
    ∃ fm L, SC.firstMonthPillar y = some fm ∧ scmDays realEph ⟨y, SC.cycNext fm k⟩ = some L ∧
      (L.length : Int) = realEph.termDay ((24 * (y - 1) + 3 + 2 * (k : Int)).toNat + 2) - realEph.termDay (24 * (y - 1) + 3 + 2 * (k : Int)).toNat ∧
      ∀ i (hi : i < L.length), Civil.validT L[i] = true ∧ jdnT L[i] = realEph.termDay (24 * (y - 1) + 3 + 2 * (k : Int)).toNat + i := by
  obtain ⟨L, h⟩ := C13_scm_days_total realEph realEph_leap_le realEph_termFacts realEph_newYearFacts C02_first_year_real
    (y - 1) (y + 1) (by omega) (by omega) (realEph_tiles_around y hy) y k hk (by omega)
    (Or.inr (by omega)) (by omega) _ (SC.firstMonthPillar_eq y)
  exact ⟨_, L, SC.firstMonthPillar_eq y, h⟩

/-- C08 END-TO-END, for any ephemeris with the term facts (`Cont.day_view_spec` with the first month written out):
whenever the sexagenary view of a civil date of a year ≤ 9998
exists and the date's lunar year is the civil year, the one before, or the one after on/after Lichun, the year pillar and
the month pillar are those of the sexagenary month containing the term g the day lies in:
year = 1 + ⌊(g−3)/2⌋ div 12, month = first month (Five Tigers) advanced by ⌊(g−3)/2⌋ mod 12. -/
theorem C13_view_of_day (E : Eph) (tf : TermFacts E) (Y M D : Int) (hv : Civil.valid Y M D = true) (hY : Y ≤ 9998)
    (v : SC.DayView) (hview : SC.ofSolarDay E Y M D = some v) (hLY : LunarYearOK E Y M D) :
    ∃ g : Nat, 1 ≤ g ∧ g + 1 ≤ 239977 ∧ E.termDay g ≤ jdn Y M D ∧ jdn Y M D < E.termDay (g + 1) ∧
      ∃ fm, SC.lunarMonthPillar (monthOrd g / 12 + 1) 0 = some fm ∧
        v.year = SC.yearPillar (monthOrd g / 12 + 1) ∧ v.month = SC.cycNext fm (monthOrd g % 12) := by
  obtain ⟨g, _, _, g1, _, ghi, t2, t3, _, hy, hm⟩ := day_view_spec E tf Y M D hv hY v hview hLY
  refine ⟨g, g1, by omega, t2, t3, _, SC.lunarMonthPillar_eq _ 0, hy, ?_⟩
  rw [hm, SC.cycNext_eq]
  omega

/-! ### non-vacuity -/

example : yearMonths 2024 = some (Civil.monthsOfYear 2024) ∧ monthDays 2024 2 = some (Civil.datesOfMonth 2024 2) ∧
    (Civil.datesOfMonth 2024 2).length = 29 ∧ (Civil.datesOfMonth 1582 10).length = 21 := by decide

example : (lunarYearMonths realEph 2023).map List.length = some 13 ∧ (lunarYearMonths realEph 9999).map List.length = some 12 := by
  rw [realEph_eq_quick]; decide +kernel

/-- the hypothesis of C13_scm_days_real is met: the first month of sexagenary year 2 (pillar 38) is listed, 31 days from
0002-02-05 (an early year keeps the kernel's list look-ups short) -/
example : SC.firstMonthPillar 2 = some 38 ∧
    (scmDays realEph ⟨2, SC.cycNext 38 (0 : Nat)⟩).map (fun l => (l.length, l.head?)) = some (31, some (2, 2, 5)) := by
  rw [realEph_eq_quick]; decide +kernel

end Tyme

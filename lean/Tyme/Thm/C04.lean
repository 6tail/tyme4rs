import Tyme.Facts.Months
/-!
C04 — month numbers and the leap month follow the no-major-term rule. Property theorems (`C04_*`).
The rule is the executable predicate `suiCore a b` (Facts/Preds.lean, meant to be read): with the library's own
new-moon days (month table) and calendar-making zhongqi days (13 per solstice year, stored in the year record),
the lunation containing each winter solstice is a regular month 11; between two such months there are 12 or 13
lunations; with 13 the first one containing no zhongqi day is the leap month and repeats the previous number;
otherwise there is no leap month; every lunation carries the number this prescribes.
Everything is decided by Lean kernel evaluation on the data re-extracted from /repo on every run.
-/
namespace Tyme
open Packed

/-- TABLE FACT (complete enumeration of 9,999 solstice years): rule numbering = table numbering for every lunar
year 27..9999 except 238, 239, 240. -/
theorem C04_rule_fact : adjRec 1024 suiPair Gen.monthsChunks = true := years_sui_fact

/-- the same, per year, about the record list `yearRecs` (record k = lunar year k) -/
theorem C04_rule (y : Nat) (h1 : 27 ≤ y) (h2 : y ≤ 9999) (h3 : y ≠ 238 ∧ y ≠ 239 ∧ y ≠ 240) :
    suiCore (yearRecs.getD (y - 1) 0) (yearRecs.getD y 0) = true := by
  have hp := year_pair_fact years_sui_fact (y - 1) (by omega)
  have e : y - 1 + 1 = y := by omega
  have hex : suiExcluded y = false := by
    have hb : Nat.blt y 27 = false := by rw [Bool.eq_false_iff, Ne, Nat.blt_eq]; omega
    simp [suiExcluded, hb, h3.1, h3.2.1, h3.2.2]
  rw [suiPair, e, hex, Bool.false_or] at hp
  exact hp

/-- what `suiCore` asserts, unfolded for the reader: the winter-solstice lunations are regular month 11 (both ends) -/
theorem C04_solstice_month_11 (a b : Nat) (h : suiCore a b = true) :
    ∃ A B, findMonth a (Rec.yQi b 0) (Rec.yCount a) 0 = some A ∧ findMonth b (Rec.yQi b 12) (Rec.yCount b) 0 = some B ∧
      numOf (Rec.yLeap a) A = (11, false) ∧ numOf (Rec.yLeap b) B = (11, false) ∧
      (Rec.yCount a - A + B = 12 ∨ Rec.yCount a - A + B = 13) := by
  unfold suiCore at h
  split at h
  · rename_i A B hA hB
    simp only [Bool.and_eq_true, beq_iff_eq, Bool.or_eq_true] at h
    exact ⟨A, B, hA, hB, h.1.1.1, h.1.1.2, h.1.2⟩
  · simp at h

/-- the three excluded years really violate the rule (so the exclusion list is exact, as the property states) -/
theorem C04_excluded_years_fail :
    suiCore (yearRecs.getD 237 0) (yearRecs.getD 238 0) = false ∧ suiCore (yearRecs.getD 238 0) (yearRecs.getD 239 0) = false ∧
    suiCore (yearRecs.getD 239 0) (yearRecs.getD 240 0) = false := by
  simp only [yearRecs, records_getD]
  refine ⟨?_, ?_, ?_⟩ <;> decide +kernel

/-- non-vacuity: 2023 has 13 lunations in its solstice year and leap month 2; 2024 has 12 and none -/
example : Rec.yLeap (yearRecs.getD 2023 0) = 2 ∧ Rec.yLeap (yearRecs.getD 2024 0) = 0 ∧
    suiCore (yearRecs.getD 2022 0) (yearRecs.getD 2023 0) = true := by
  simp only [yearRecs, records_getD]; decide +kernel

end Tyme

import Tyme.Facts.Months
import Tyme.Facts.Quick
/-!
C03 — lunar months tile time. Property theorems only; every obligation is named `C03_*`.

Data layer: `realEph` = the lunar-month table re-extracted from /repo on every run (Gen/Months*).
Table facts are decided by kernel evaluation over ALL 10,000 lunar years (123,684 lunations).
Logic layer: `Lunar.next`, `Lunar.fromYm` (Model/Lunar.lean) for an ARBITRARY ephemeris.
-/
namespace Tyme
open Lunar

/-- TABLE FACT (complete enumeration): in every lunar year 0..9998 except the five D4 years {8,23,24,236,239}
consecutive months abut, have 29 or 30 days, the year has 12 months or 13 with a leap month ≤ 12, the next
year starts the day after the last month ends, and the year is 353–355 or 383–385 days long. -/
theorem C03_tiles_fact : Packed.adjRec 1024 yearPair Gen.monthsChunks = true := years_tile_fact

/-- The same, as a statement about the extracted ephemeris (what the generic theorems consume). -/
theorem C03_tiles (y : Nat) (hy : y ≤ 9998) (hb : badYear y = false) : TilesYear realEph y :=
  realEph_tiles y hy hb

/-- Year length = distance between successive lunar new-year days, in the stated ranges (corollary). -/
theorem C03_year_length (y : Nat) (hy : y ≤ 9998) (hb : badYear y = false) :
    let n := realEph.mFirst (y + 1) 0 - realEph.mFirst y 0
    (353 ≤ n ∧ n ≤ 355) ∨ (383 ≤ n ∧ n ≤ 385) := (realEph_tiles y hy hb).yearLen

/-- 12 months, or 13 exactly when the year has a leap month (definition of the count the code uses)
and the leap month number is ≤ 12 — for EVERY lunar year of the table, no exceptions. -/
theorem C03_leap_le (y : Int) : realEph.leap y ≤ 12 := realEph_leap_le y

/-- Month numbering along the listing: 1,2,…, the leap month directly after the regular month of the
same number, then the rest — for any ephemeris. -/
theorem C03_leap_follows_twin (E : Eph) (y : Int) (h : 0 < E.leap y) :
    monthWithLeap E ⟨y, E.leap y - 1⟩ = (E.leap y : Int) ∧ monthWithLeap E ⟨y, E.leap y⟩ = -(E.leap y : Int) ∧
    monthWithLeap E ⟨y, E.leap y + 1⟩ = (E.leap y : Int) + 1 := by
  unfold monthWithLeap
  dsimp only
  generalize E.leap y = lp at *
  refine ⟨?_, ?_, ?_⟩
  all_goals (repeat' split)
  all_goals omega

/-- `next n` lands exactly n places further along the listing — for ALL n and any ephemeris with leap ≤ 12. -/
theorem C03_next_pos (E : Eph) (hl : ∀ y, E.leap y ≤ 12) (x x' : Month) (hx : WF E x) (n : Int)
    (h : next E x n = some x') : WF E x' ∧ gpos E x' = gpos E x + n := next_gpos E hl hx h

/-- stepping by a then b equals stepping by a+b (whenever all three are accepted) -/
theorem C03_next_add (E : Eph) (hl : ∀ y, E.leap y ≤ 12) (x x1 x2 x3 : Month) (hx : WF E x) (a b : Int)
    (h1 : next E x a = some x1) (h2 : next E x1 b = some x2) (h3 : next E x (a + b) = some x3) : x3 = x2 :=
  Option.some.inj (h3.symm.trans ((next_add E hl hx a b h1).symm.trans h2))

/-- forward then back returns to the same month -/
theorem C03_next_neg (E : Eph) (hl : ∀ y, E.leap y ≤ 12) (x x1 x2 : Month) (hx : WF E x) (n : Int)
    (h1 : next E x n = some x1) (h2 : next E x1 (-n) = some x2) : x2 = x := by
  obtain ⟨w1, p1⟩ := next_gpos E hl hx h1
  obtain ⟨w2, p2⟩ := next_gpos E hl w1 h2
  exact gpos_inj E w2 hx (by omega)

/-- instantiation for the current tree's data -/
theorem C03_next_pos_real (x x' : Month) (hx : WF realEph x) (n : Int) (h : next realEph x n = some x') :
    WF realEph x' ∧ gpos realEph x' = gpos realEph x + n := next_gpos realEph realEph_leap_le hx h

/-- non-vacuity: a concrete step across a leap year boundary of the real data is accepted -/
example : (next realEph ⟨2023, 2⟩ 12).isSome = true ∧ (fromYm realEph 2023 (-2)).isSome = true := by
  rw [realEph_eq_quick]; decide +kernel

end Tyme

import Tyme.Thm.C13
import Tyme.Thm.C08c
/-!
C13, second file — TOTALITY of `SixtyCycleDay::get_hours`.

`C13_scd_hours`, `C13_scd_hours_pillars` (Thm/C13.lean) speak about a call that *returns*. Here:
on the data re-extracted from /repo in this run the call DOES return for every valid civil date whose own civil day and
whose PREVIOUS civil day (the 23:00 slot belongs to it — possibly December 31 of the previous year) both lie in the
interior of an interval of lunar years on which the month table tiles: `from_solar_day` returns (Lemmas/DayViewTotal),
`SolarDay::next(-1)` and the eleven `SolarTime::next(7200)` stay inside 0001..9999 (C01/C12), and every one of the twelve
instants has an instant-level view (`C08_time_total`: `get_lunar_day`'s walk, `get_term`'s walk, the pillar look-ups).
`C13_scd_hours_total_real` is the combined end-to-end statement, with no "if the call returns" hypothesis.
-/
namespace Tyme
open Cont Lunar SC

/-- TOTAL CORRECTNESS of `SixtyCycleDay::get_hours` on the current tree's data, for any interval [a, b] (1 ≤ a, b ≤ 9998)
of lunar years on which the month table tiles: for every valid civil date (Y, M, D) with a+2 ≤ Y (or a+1 ≤ Y and the date
is not January 1 — the 23:00 slot lies in the previous civil day) and Y+1 ≤ b, the call RETURNS a list of 12 existing
instants, slot 0 at 23:00:00 of the previous civil day, slot i ≥ 1 at (2i−1):00:00 of the day itself, each carrying exactly
the view `SixtyCycleHour::from_solar_time` gives that instant, with the day's own pillar (day number + 49) mod 60 and hour
branch i. -/
theorem C13_scd_hours_total (a b : Nat) (ha1 : 1 ≤ a) (hb : b ≤ 9998) (ht : TilesOn realEph a b)
    (Y M D : Int) (hv : Civil.valid Y M D = true) (hYa : (a : Int) + 1 ≤ Y)
    (hprev : (a : Int) + 2 ≤ Y ∨ ¬ (M = 1 ∧ D = 1)) (hY2 : Y + 1 ≤ b) :
    ∃ L, scdHours realEph Y M D = some L ∧ L.length = 12 ∧ ∀ i (hi : i < L.length),
      Clock.valid L[i].1 = true ∧ secs L[i].1 = 86400 * jdn Y M D - 3600 + 7200 * (i : Int) ∧
      (i = 0 → jdnT L[i].1.day = jdn Y M D - 1 ∧ L[i].1.h = 23 ∧ L[i].1.mi = 0 ∧ L[i].1.s = 0) ∧
      (1 ≤ i → L[i].1 = ⟨(Y, M, D), 2 * (i : Int) - 1, 0, 0⟩) ∧
      viewOfTime realEph L[i].1 = some L[i].2 ∧
      L[i].2.day = (jdn Y M D + 49) % 60 ∧ L[i].2.hour % 12 = (i : Int) := by
  have ha0 : (0 : Int) ≤ (a : Int) := by omega
  have hb9 : (b : Int) + 1 ≤ 9999 := by omega
  obtain ⟨hYge1, _⟩ := (valid_iff Y M D).1 hv
  obtain ⟨yb1, yb2⟩ := jdn_year_bounds Y M D hv
  -- every valid date with day number J or J − 1 lies in a year of the interior
  have near : ∀ y' m' d' : Int, Civil.valid y' m' d' = true → jdn Y M D - 1 ≤ jdn y' m' d' → jdn y' m' d' ≤ jdn Y M D →
      (a : Int) + 1 ≤ y' ∧ y' + 1 ≤ b := by
    intro y' m' d' dv j1 j2
    obtain ⟨n1, n2, n3⟩ := year_near Y M D y' m' d' hv dv j1 j2
    rcases hprev with h | h
    · omega
    · have := n3 (after_jan1 Y M D hv h); omega
  obtain ⟨i1, i2, i3, i4⟩ := C02_interval_of_year realEph realEph_newYearFacts a b ha0 hb9 Y M D hv (Or.inr hYa) hY2
  have j1 := jdn_0001_01_01
  have jY := jan1_strict 1 Y (by omega)
  have h1 := first_term_le_date realEph_termFacts Y M D hv (by omega)
  have hday := ofSolarDay_total realEph realEph_leap_le realEph_termFacts realEph_newYearFacts C02_first_year_real
    a b ha0 hb9 ht Y M D hv i1 i2 i3 i4 h1
  -- every instant from 23:00 of the previous day to the end of the day has a view
  have viewAll : ∀ t' : Time, Clock.valid t' = true → 86400 * jdn Y M D - 3600 ≤ secs t' → secs t' < 86400 * jdn Y M D + 86400 →
      ∃ v, viewOfTime realEph t' = some v := by
    intro t' tv s1 s2
    obtain ⟨dv, c1, c2, c3, c4, c5, c6⟩ := (clock_valid_iff _).1 tv
    unfold secs at s1 s2
    obtain ⟨na, nb⟩ := near _ _ _ dv (by omega) (by omega)
    exact C08_time_total a b ha1 (by omega) hb ht _ _ _ _ _ _ dv ⟨c1, c2⟩ ⟨c3, c4⟩ ⟨c5, c6⟩ na nb
  obtain ⟨L, hL⟩ := scdHours_total realEph Y M D hv (by omega) hday viewAll
  refine ⟨L, hL, ?_⟩
  obtain ⟨q, qv, qj, ⟨_, e0⟩, len, sp⟩ := scdHours_spec realEph Y M D L hL
  have eq : jdnT q = jdn q.1 q.2.1 q.2.2 := rfl
  obtain ⟨pa, pb⟩ := near q.1 q.2.1 q.2.2 qv (by omega) (by omega)
  obtain ⟨_, _, q3, _⟩ := C02_interval_of_year realEph realEph_newYearFacts a b ha0 hb9 q.1 q.2.1 q.2.2 qv (Or.inr pa) pb
  have pil := C13_scd_hours_pillars realEph realEph_leap_le a b ht Y M D hv hYa (by omega) (by omega) i4 L hL
  refine ⟨len, fun i hi => ?_⟩
  obtain ⟨s1, s2, s3⟩ := sp i hi
  obtain ⟨p1, p2⟩ := pil i hi
  refine ⟨s1, s2, ?_, scdHours_clock realEph Y M D L hv hL i hi, s3, p1, p2⟩
  rintro rfl
  rw [e0]
  exact ⟨qj, rfl, rfl, rfl⟩

/-- END-TO-END, TOTAL, for the data re-extracted from /repo in this run: for EVERY valid civil date of the years
11..21, 27..234, 242..9997 — and of the years 10, 26, 241 except their January 1, whose 23:00 slot falls in a junction
year — `SixtyCycleDay::get_hours` RETURNS a list L of exactly 12 hours;
slot 0 is 23:00:00 of the PREVIOUS civil day (December 31 of the previous year when the date is January 1), slot i ≥ 1 is
(2i−1):00:00 of the day itself; slot i starts 3600 s before the civil midnight plus 7200·i s; each carries the view
`SixtyCycleHour::from_solar_time` gives that instant; all twelve carry the day's own pillar, (day number + 49) mod 60,
and the hour branch of slot i is i (Zi, Chou, …, Hai): the list is the day's twelve double hours, each once, in order. -/
theorem C13_scd_hours_total_real (Y M D : Int) (hv : Civil.valid Y M D = true)
    (hy : (11 ≤ Y ∧ Y ≤ 21) ∨ (27 ≤ Y ∧ Y ≤ 234) ∨ (242 ≤ Y ∧ Y ≤ 9997) ∨
      ((Y = 10 ∨ Y = 26 ∨ Y = 241) ∧ ¬ (M = 1 ∧ D = 1))) :
    ∃ L, scdHours realEph Y M D = some L ∧ L.length = 12 ∧ ∀ i (hi : i < L.length),
      Clock.valid L[i].1 = true ∧ secs L[i].1 = 86400 * jdn Y M D - 3600 + 7200 * (i : Int) ∧
      (i = 0 → jdnT L[i].1.day = jdn Y M D - 1 ∧ L[i].1.h = 23 ∧ L[i].1.mi = 0 ∧ L[i].1.s = 0) ∧
      (1 ≤ i → L[i].1 = ⟨(Y, M, D), 2 * (i : Int) - 1, 0, 0⟩) ∧
      viewOfTime realEph L[i].1 = some L[i].2 ∧
      L[i].2.day = (jdn Y M D + 49) % 60 ∧ L[i].2.hour % 12 = (i : Int) := by
  have key : ∀ a : Nat, (a : Int) + 1 ≤ Y → ((a : Int) + 2 ≤ Y ∨ ¬ (M = 1 ∧ D = 1)) → 1 ≤ a → Y ≤ 9997 →
      (∀ z : Int, (a : Int) ≤ z → z ≤ Y + 1 → z ≠ 8 ∧ z ≠ 23 ∧ z ≠ 24 ∧ z ≠ 236 ∧ z ≠ 239) → _ :=
    fun a h1 hp ha h9 hz => C13_scd_hours_total a (Y + 1).toNat ha (by omega)
      (by rw [Int.toNat_of_nonneg (by omega)]; exact realEph_tilesOn _ _ (by omega) (by omega) hz) Y M D hv h1 hp (by omega)
  by_cases hne : M = 1 ∧ D = 1
  · have hy' : (11 ≤ Y ∧ Y ≤ 21) ∨ (27 ≤ Y ∧ Y ≤ 234) ∨ (242 ≤ Y ∧ Y ≤ 9997) := by omega
    clear hy
    exact key (Y - 2).toNat (by omega) (Or.inl (by omega)) (by omega) (by omega) (fun z _ _ => by omega)
  · have hy' : (10 ≤ Y ∧ Y ≤ 21) ∨ (26 ≤ Y ∧ Y ≤ 234) ∨ (241 ≤ Y ∧ Y ≤ 9997) := by omega
    clear hy
    exact key (Y - 1).toNat (by omega) (Or.inr hne) (by omega) (by omega) (fun z _ _ => by omega)

/-- January 1: the 23:00 slot is December 31 of the previous year, and the call still returns -/
theorem C13_scd_hours_jan1_real (Y : Int) (hy : (11 ≤ Y ∧ Y ≤ 21) ∨ (27 ≤ Y ∧ Y ≤ 234) ∨ (242 ≤ Y ∧ Y ≤ 9997)) :
    ∃ L, scdHours realEph Y 1 1 = some L ∧ ∃ h0 : 0 < L.length, L[0].1 = ⟨(Y - 1, 12, 31), 23, 0, 0⟩ := by
  have hv : Civil.valid Y 1 1 = true := by
    rw [valid_iff, lastDay_eq]; simp; omega
  have hv2 : Civil.valid (Y - 1) 12 31 = true := by
    rw [valid_iff, lastDay_eq]; simp; omega
  obtain ⟨L, hL, _⟩ := C13_scd_hours_total_real Y 1 1 hv (by omega)
  obtain ⟨p, pv, pj, ⟨h0, e0⟩, _⟩ := scdHours_spec realEph Y 1 1 L hL
  -- December 31 is the last day of its month, and January 1 follows that month
  have e1 := jdn_last_day (Y - 1) 12 (by omega) (by omega) (by omega) (by omega)
  have e2 := jdn_month_succ (Y - 1) 12 (by omega) (by omega)
  rw [if_pos rfl, if_pos rfl, Int.sub_add_cancel] at e2
  rw [show Civil.lastDay (Y - 1) 12 = 31 by rw [lastDay_eq]; simp] at e1
  have : p = (Y - 1, 12, 31) := jdn_inj p (Y - 1, 12, 31) pv hv2 (by show jdnT p = jdn (Y - 1) 12 31; omega)
  exact ⟨L, hL, h0, by rw [e0, this]⟩

/-! ### non-vacuity -/

/-- the hypotheses of `C13_scd_hours_total_real` are met, e.g. by 2024-02-04 and by 0011-01-01 -/
example : Civil.valid 2024 2 4 = true ∧ (242 ≤ (2024 : Int) ∧ (2024 : Int) ≤ 9997) ∧
    Civil.valid 11 1 1 = true ∧ (11 ≤ (11 : Int) ∧ (11 : Int) ≤ 21) := by decide

/-- the hypotheses of `C13_scd_hours_total` are met by the main interval of this run's data -/
example : ∃ a b : Nat, 1 ≤ a ∧ b ≤ 9998 ∧ TilesOn realEph a b ∧ (a : Int) + 2 ≤ 2024 ∧ (2024 : Int) + 1 ≤ b :=
  ⟨240, 9998, by omega, by omega, C02_good_intervals.2.2.2.2, by decide, by decide⟩

end Tyme

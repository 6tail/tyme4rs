import Tyme.Lemmas.Cycle
import Tyme.Lemmas.Lunar
import Tyme.Lemmas.TermLine
/-!
C08 — year pillar turns at Lichun, month pillar at each Jie, by the Five-Tigers rule. Property theorems (`C08_*`).
Model: `SC.ofSolarDay`, `SC.ofSolarTime` (after the `fix:` D17), built from `adjYear`, `monthOffset`,
`lunarMonthPillar`, `cycNext`.
The unprefixed lemmas are what the end-to-end statements (Lemmas/DayView `day_view_spec`, Thm/C08b, Thm/C08c) are read
off: the rule as index arithmetic and on a line (`year_month_of_term`, `year_month_on_line`, `rule_of_counters`) and the two
views against their pieces (`ofSolarTime_inv` / `ofSolarTime_some`, `ofSolarDay_inv`, `fromYm_one`); `Cont.monthOrd g` is
the number of the Jie-delimited month of term g in which the rule is stated. Totality on the extracted data is in
Thm/C08b.lean (day view), Thm/C08c.lean (instant view) and Thm/Total.lean.
-/
namespace Tyme
open SC

/-- the year of the pillar: Y from Lichun on, Y−1 before — whenever the lunar year of the date is Y−1, Y, or
Y+1 after Lichun (late-December new year, D17). -/
theorem C08_adjYear (Y ly0 : Int) (before : Bool)
    (h : ly0 = Y ∨ ly0 = Y - 1 ∨ (ly0 = Y + 1 ∧ before = false)) :
    adjYear Y ly0 before = if before then Y - 1 else Y := by
  unfold adjYear
  rcases h with h | h | ⟨h, hb⟩
  · subst h; cases before <;> simp
  · subst h
    have : ¬ (Y - 1 = Y) := by omega
    have h2 : Y - 1 < Y := by omega
    cases before <;> simp [this, h2]
  · subst h; subst hb
    have : ¬ (Y + 1 = Y) := by omega
    have h2 : ¬ (Y + 1 < Y) := by omega
    simp [this, h2]

/-- year pillar = (year − 4) mod 60 -/
theorem C08_yearPillar (y : Int) : yearPillar y = (y - 4) % 60 := yearPillar_eq y

/-- month offset from the first month of the civil year, as a function of the term index (0..23):
terms 3..23 count Jie since Lichun; December's terms 0..2 (after Lichun) continue at 10, 11, 11;
January's terms 0..2 (before Lichun) are −2, −1, −1, i.e. months 10, 11, 11 of the previous year. -/
theorem C08_monthOffset (ti : Int) (h0 : 0 ≤ ti) (h1 : ti ≤ 23) (after : Bool) :
    monthOffset ti after = if 3 ≤ ti then (ti - 3) / 2 else if after then (ti + 21) / 2 else (ti + 21) / 2 - 12 := by
  unfold monthOffset half
  cases after <;> simp <;> (repeat' split) <;> omega

/-- Five Tigers: the first month (Yin, branch 2) of a year has stem (year stem + 1)·2 mod 10, and stepping the
month pillar by k keeps stem and branch in step — so the month stem is a function of year stem and month
branch, and only the 60×12 legal year/month pairs occur. -/
theorem C08_five_tigers (y : Int) (k : Int) (fm : Int) (h : lunarMonthPillar y 0 = some fm) :
    fm % 12 = 2 ∧ fm % 10 = ((yearPillar y % 10 + 1) * 2) % 10 ∧
    cycNext fm k % 12 = (2 + k) % 12 ∧ cycNext fm k % 10 = ((yearPillar y % 10 + 1) * 2 + k) % 10 := by
  rw [lunarMonthPillar_eq, Option.some.injEq] at h
  rw [cycNext_eq, yearPillar_eq]
  omega

/-- the first month of consecutive years continues the same 60-cycle of month pillars: first(y+1) = first(y) + 12 -/
theorem C08_first_month_chain (y : Int) (a b : Int) (h1 : lunarMonthPillar y 0 = some a)
    (h2 : lunarMonthPillar (y + 1) 0 = some b) : b = cycNext a 12 := by
  rw [lunarMonthPillar_eq, Option.some.injEq] at h1 h2
  rw [cycNext_eq]
  omega

namespace Cont
/-- ordinal of the sexagenary month that the days of term g belong to: months counted from the first month of
sexagenary year 1 (month k of year y has ordinal 12(y−1) + k; it consists of the terms 24(y−1)+3+2k and the next) -/
def monthOrd (g : Nat) : Int := ((g : Int) - 3) / 2
end Cont
open Cont

/-- The rule, as arithmetic on the index of the term `g` that a day or an instant of civil year `Y` lies in. The code
compares the position and the term with Lichun of `Y`; on an increasing line those comparisons are comparisons of `g` with
the index of Lichun, and then the year the code names and the number of the month (12 to a year; the first month of civil
year `Y` is number `12 Y`) are those of the term alone: terms `24 (y − 1) + 3 + 2 k` and the next make up month `k` of
year `y`. -/
theorem year_month_of_term (Y ly0 : Int) (g : Nat) (hg : 24 * (Y - 1) ≤ (g : Int) ∧ (g : Int) ≤ 24 * (Y - 1) + 25)
    (hly : ly0 = Y ∨ ly0 = Y - 1 ∨ (ly0 = Y + 1 ∧ ¬ (g : Int) < 24 * (Y - 1) + 3)) :
    adjYear Y ly0 (decide ((g : Int) < 24 * (Y - 1) + 3)) = monthOrd g / 12 + 1 ∧
    12 * Y + monthOffset ((g % 24 : Nat) : Int) (decide (24 * (Y - 1) + 3 < (g : Int))) = monthOrd g + 12 := by
  unfold monthOrd
  rw [C08_adjYear Y ly0 _ (by simpa using hly), C08_monthOffset _ (by omega) (by omega)]
  simp only [decide_eq_true_eq]
  constructor
  · split <;> omega
  · split
    · omega
    · split <;> omega

/-- The rule on a line. For a position `p` in the cell `g` of an increasing sequence `T` of term points (days, seconds),
the code's comparisons of `p` and of `T g` with Lichun of `Y` are comparisons of `g` with Lichun's index, so the year it
names and the month number it computes are those of `year_month_of_term`. -/
theorem year_month_on_line {T : Nat → Int} {N : Nat} (step : ∀ g, 1 ≤ g → g + 1 ≤ N → T g < T (g + 1)) (Y ly0 : Int) (g : Nat)
    (p : Int) (hg1 : 1 ≤ g) (hgN : g ≤ N) (h1 : T g ≤ p) (h2 : p < T (g + 1))
    (hg : 24 * (Y - 1) ≤ (g : Int) ∧ (g : Int) ≤ 24 * (Y - 1) + 25) (hY : 1 ≤ Y) (hSN : (24 * (Y - 1) + 3).toNat ≤ N)
    (hly : ly0 = Y ∨ ly0 = Y - 1 ∨ (ly0 = Y + 1 ∧ ¬ p < T (24 * (Y - 1) + 3).toNat)) :
    (p < T (24 * (Y - 1) + 3).toNat ↔ (g : Int) < 24 * (Y - 1) + 3) ∧
    adjYear Y ly0 (decide (p < T (24 * (Y - 1) + 3).toNat)) = monthOrd g / 12 + 1 ∧
    12 * Y + monthOffset ((g % 24 : Nat) : Int) (decide (T g > T (24 * (Y - 1) + 3).toNat)) = monthOrd g + 12 := by
  have hbefore : p < T (24 * (Y - 1) + 3).toNat ↔ (g : Int) < 24 * (Y - 1) + 3 := by
    rw [cell_lt_iff step hg1 hgN h1 h2 (by omega) hSN]; omega
  have hafter : T g > T (24 * (Y - 1) + 3).toNat ↔ 24 * (Y - 1) + 3 < (g : Int) :=
    ⟨fun h => by have := index_lt_of_lt_term step hg1 hSN (Int.le_refl _) h; omega, fun h => lt_of_step step (by omega) (by omega) hgN⟩
  rw [decide_eq_decide.2 hbefore, decide_eq_decide.2 hafter]
  exact ⟨hbefore, year_month_of_term Y ly0 g hg (by rw [← hbefore]; exact hly)⟩

/-- …and from the pillars as counters of the month number `⌊(g−3)/2⌋` to the form in which the end-to-end statements give
them: with Y* the year of the term line (`Y − 1` before Lichun of `Y`, else `Y`) and `k = ⌊(g − Lichun(Y*))/2⌋` the month in
it, branch `(2 + k) mod 12` and Five-Tigers stem. `p` is the code's "before Lichun" on whichever line. -/
theorem rule_of_counters (Y : Int) (g : Nat) (hg : 24 * (Y - 1) ≤ (g : Int) ∧ (g : Int) ≤ 24 * (Y - 1) + 25)
    (p : Prop) [Decidable p] (hp : p ↔ (g : Int) < 24 * (Y - 1) + 3) (vy vm : Int)
    (hy : vy = yearPillar (monthOrd g / 12 + 1)) (hm : vm = (monthOrd g + 26) % 60) :
    vy = ((if p then Y - 1 else Y) - 4) % 60 ∧
    0 ≤ ((g : Int) - (24 * ((if p then Y - 1 else Y) - 1) + 3)) / 2 ∧ ((g : Int) - (24 * ((if p then Y - 1 else Y) - 1) + 3)) / 2 ≤ 11 ∧
    vm % 12 = (2 + ((g : Int) - (24 * ((if p then Y - 1 else Y) - 1) + 3)) / 2) % 12 ∧
    vm % 10 = (((((if p then Y - 1 else Y) - 4) % 60) % 10 + 1) * 2 + ((g : Int) - (24 * ((if p then Y - 1 else Y) - 1) + 3)) / 2) % 10 := by
  unfold monthOrd at hy hm
  rw [yearPillar_eq] at hy
  have hys : (if p then Y - 1 else Y) = ((g : Int) - 3) / 2 / 12 + 1 := by
    by_cases hc : p
    · have := hp.1 hc; rw [if_pos hc]; omega
    · have := mt hp.2 hc; rw [if_neg hc]; omega
  have hk : ((g : Int) - (24 * (((g : Int) - 3) / 2 / 12 + 1 - 1) + 3)) / 2 = ((g : Int) - 3) / 2 % 12 := by omega
  rw [hys, hk]
  generalize ((g : Int) - 3) / 2 = m at hy hm ⊢
  exact ⟨hy, by omega, by omega, by omega, by omega⟩

/-- `LunarMonth::from_ym(y, 1)` is month 0 of year y -/
theorem fromYm_one (E : Eph) (Y : Int) (m1 : Lunar.Month) (h : Lunar.fromYm E Y 1 = some m1) : m1 = ⟨Y, 0⟩ := by
  obtain ⟨_, _, _, _, _, _, rfl⟩ := Lunar.fromYm_eq_some h
  rw [Lunar.idxOf_one]

/-- the instant view is assembled from exactly these pieces (inversion of the model), each pillar look-up in closed form:
the year from the adjusted lunar year, the month from the number of the first month of the civil year and the month offset
of the instant's term, day and hour from the lunar day's number. -/
theorem ofSolarTime_inv (E : Eph) (Y M D h mi s : Int) (v : HourView) (hv : ofSolarTime E Y M D h mi s = some v) :
    ∃ x k g, Lunar.ofSolar E Y M D = some (x, k) ∧ Term.ofTime E Y M D h mi s = some g ∧
      v.year = yearPillar (adjYear Y x.y (decide (86400 * jdn Y M D + 3600 * h + 60 * mi + s < E.termSec (24 * (Y - 1) + 3).toNat))) ∧
      v.month = (12 * Y + 14 + monthOffset ((g % 24 : Nat) : Int) (decide (E.termSec g > E.termSec (24 * (Y - 1) + 3).toNat))) % 60 ∧
      v.day = (Lunar.first E x + k - 12 + if h = 23 then 1 else 0) % 60 ∧
      v.hour = (12 * (Lunar.first E x + k - 12 + if h ≥ 23 then 1 else 0) + (h + 1) / 2 % 12) % 60 := by
  unfold ofSolarTime at hv
  simp only [lunarMonthPillar_eq, dayPillar_eq, hourPillar_eq, cycNext_eq] at hv
  split at hv
  · cases hv
  · split at hv
    · cases hv
    · split at hv
      · cases hv
      · rename_i x k hr
        split at hv
        · cases hv
        · split at hv
          · cases hv
          · rename_i g hg
            split at hv
            · cases hv
            · rename_i m1 hm1
              cases fromYm_one E Y m1 hm1
              rw [← Option.some.inj hv]
              refine ⟨x, k, g, hr, hg, rfl, ?_, ?_, ?_⟩ <;> dsimp only
              · omega
              · split <;> omega
              · split <;> omega

/-- …and conversely the instant view exists as soon as the two look-ups and `from_ym` return, Lichun of `Y` is representable
and the lunar year is one the adjustment handles (the adjusted year is then `Y` or `Y − 1`, an accepted year) -/
theorem ofSolarTime_some (E : Eph) (Y M D h mi s : Int) (hY : 1 ≤ Y ∧ Y ≤ 9999) (hS : E.termDay (24 * (Y - 1) + 3).toNat ≠ 0)
    (x : Lunar.Month) (k : Int) (hr : Lunar.ofSolar E Y M D = some (x, k)) (g : Nat) (hg : Term.ofTime E Y M D h mi s = some g)
    (hym : Lunar.fromYm E Y 1 = some ⟨Y, 0⟩)
    (hly : x.y = Y ∨ x.y = Y - 1 ∨
      (x.y = Y + 1 ∧ ¬ 86400 * jdn Y M D + 3600 * h + 60 * mi + s < E.termSec (24 * (Y - 1) + 3).toNat)) :
    ∃ v, ofSolarTime E Y M D h mi s = some v := by
  have hadj := C08_adjYear Y x.y (decide (86400 * jdn Y M D + 3600 * h + 60 * mi + s < E.termSec (24 * (Y - 1) + 3).toNat))
    (by simpa using hly)
  have c2 : ¬ (adjYear Y x.y (decide (86400 * jdn Y M D + 3600 * h + 60 * mi + s < E.termSec (24 * (Y - 1) + 3).toNat)) < -1 ∨
      adjYear Y x.y (decide (86400 * jdn Y M D + 3600 * h + 60 * mi + s < E.termSec (24 * (Y - 1) + 3).toNat)) > 9999) := by
    rw [hadj]; split <;> omega
  unfold ofSolarTime
  simp only [show ¬ (24 * (Y - 1) + 3 < 0) by omega, if_false, hS, hr, c2, hg, hym, lunarMonthPillar_eq, dayPillar_eq, hourPillar_eq]
  exact ⟨_, rfl⟩

theorem ofSolarDay_inv (E : Eph) (Y M D : Int) (v : DayView) (h : ofSolarDay E Y M D = some v) :
    ∃ x k g kk, Lunar.ofSolar E Y M D = some (x, k) ∧ Term.ofDay E Y M D = some (g, kk) ∧
      v.year = yearPillar (adjYear Y x.y (decide (jdn Y M D < E.termDay (24 * (Y - 1) + 3).toNat))) ∧
      v.month = (12 * Y + 14 + monthOffset ((g % 24 : Nat) : Int) (decide (E.termDay g > E.termDay (24 * (Y - 1) + 3).toNat))) % 60 ∧
      v.day = (Lunar.first E x + k - 12) % 60 := by
  unfold ofSolarDay at h
  simp only [lunarMonthPillar_eq, dayPillar_eq, cycNext_eq] at h
  split at h
  · cases h
  · split at h
    · cases h
    · split at h
      · cases h
      · rename_i x k hr
        split at h
        · cases h
        · split at h
          · cases h
          · rename_i g kk hg
            split at h
            · cases h
            · rename_i m1 hm1
              cases fromYm_one E Y m1 hm1
              rw [← Option.some.inj h]
              exact ⟨x, k, g, kk, hr, hg, rfl, by dsimp only; omega, rfl⟩

end Tyme

import Tyme.Lemmas.Stepping
/-!
C11 — stepping by n is a consistent group action on every time unit and cycle; index<->name lookups.
The obligations are the theorems named `C11_*`; the other lemmas here say what one model definition does
(`yearNext_inv`, `termFromIndex_normal`, `lin_index`, `scMonthNext_inv`). General helpers are in
`Tyme/Lemmas/Stepping.lean`, the facts about the re-extracted name lists in `Tyme/Facts/C11Names.lean`.

Model: `indexOf`, `loopFromIndex`, `loopNext`, `fromName`, `getName` (Tyme/Model/Cycle.lean) for the 42 LoopTyme-based
types; `yearNext`, `linNextT` (truncating carry, as in the code), `linNextF` (floor carry, the two repaired sites),
`halfNext`, `seasonNext`, `monthNext`, `termNext`, `scMonthNext`, `sfestNext`, `lfestNext`, `fortuneNext`
(Tyme/Model/Units.lean).  Spec: `Tyme.Step` (Tyme/Spec/Stepping.lean): `cyc` = (i + n) mod size; `lin` = the unit at
global position `size*year + index + n` if the supported range has it.
All theorems are for ALL integers (indices, step counts, years) and ALL sizes > 0 — nothing is bounded.
-/
namespace Tyme

/-- `index_of` (truncating `%` plus negative repair) is the mathematical remainder, for every integer index. -/
theorem C11_indexOf_emod (i : Int) (size : Nat) (h : 0 < size) : indexOf i size = i % (size : Int) :=
  indexOf_eq_emod i size h

/-- its result is always a valid index. -/
theorem C11_indexOf_range (i : Int) (size : Nat) (h : 0 < size) : 0 ≤ indexOf i size ∧ indexOf i size < (size : Int) := by
  rw [indexOf_eq_emod i size h]
  exact ⟨Int.emod_nonneg _ (by omega), Int.emod_lt_of_pos _ (by omega)⟩

/-- `from_index(k).get_index()` wraps any integer modulo the size, and is the identity on valid indices
(`from_index ∘ get_index = id`). -/
theorem C11_cyc_fromIndex (size : Nat) (h : 0 < size) (k : Int) :
    loopFromIndex size k = Step.cycOf size k ∧ (0 ≤ k → k < (size : Int) → loopFromIndex size k = k) := by
  refine ⟨indexOf_eq_emod k size h, fun h0 h1 => indexOf_of_range k size h0 h1⟩

/-- `next(n)` of every cyclic type is stepping round the cycle: (i + n) mod size, a valid index. -/
theorem C11_cyc_next_spec (size : Nat) (h : 0 < size) (i n : Int) :
    loopNext size i n = Step.cyc size i n ∧ 0 ≤ loopNext size i n ∧ loopNext size i n < (size : Int) := by
  rw [loopNext_eq size h]
  exact ⟨rfl, Int.emod_nonneg _ (by omega), Int.emod_lt_of_pos _ (by omega)⟩

/-- stepping by 0 returns x. -/
theorem C11_cyc_zero (size : Nat) (i : Int) (h0 : 0 ≤ i) (h1 : i < (size : Int)) : loopNext size i 0 = i := by
  rw [loopNext_eq size (by omega), Int.add_zero]
  exact Int.emod_eq_of_lt h0 h1

/-- stepping by a then b equals stepping by a + b (any integers, also when i + a overflows the cycle many times). -/
theorem C11_cyc_add (size : Nat) (h : 0 < size) (i a b : Int) :
    loopNext size (loopNext size i a) b = loopNext size i (a + b) := by
  rw [loopNext_eq size h, loopNext_eq size h, loopNext_eq size h, Int.emod_add_emod, Int.add_assoc]

/-- stepping by a then -a returns x. -/
theorem C11_cyc_inv (size : Nat) (i a : Int) (h0 : 0 ≤ i) (h1 : i < (size : Int)) :
    loopNext size (loopNext size i a) (-a) = i := by
  rw [C11_cyc_add size (by omega)]
  rw [Int.add_right_neg]
  exact C11_cyc_zero size i h0 h1

/-- cyclic values wrap modulo their size: whole turns do not matter. -/
theorem C11_cyc_wrap (size : Nat) (h : 0 < size) (i n k : Int) :
    loopNext size i (n + k * (size : Int)) = loopNext size i n := by
  rw [loopNext_eq size h, loopNext_eq size h, ← Int.add_assoc, Int.add_mul_emod_self_right]

/-- `steps_to(target)` is the number of forward steps that reaches the target element. -/
theorem C11_cyc_stepsTo (size : Nat) (h : 0 < size) (i t : Int) (h0 : 0 ≤ t) (h1 : t < (size : Int)) :
    loopNext size i (loopStepsTo size i t) = t := by
  unfold loopStepsTo
  rw [loopNext_eq size h, indexOf_eq_emod _ _ h, Int.add_emod_emod]
  have : i + (t - i) = t := by omega
  rw [this]
  exact Int.emod_eq_of_lt h0 h1

example : loopNext 10 3 (-1000003) = 0 ∧ loopNext 12 11 1 = 0 ∧ loopFromIndex 60 (-1) = 59 := by decide

/-- `from_name(get_name(i)) = i` for every element of a name list without duplicates. -/
theorem C11_fromName_getName (names : List (List Nat)) (hnd : names.Nodup) (i : Nat) (hi : i < names.length) :
    fromName names (getName names i) = some i := by
  rw [fromName_eq, List.findIdx?_eq_some_iff_getElem, getName_of_lt hi]
  exact ⟨hi, by simp, fun j hji => by simpa using (List.pairwise_iff_getElem.mp hnd) j i (by omega) hi hji⟩

/-- `get_name(from_name(s)) = s` whenever `from_name` accepts (duplicates or not), and the index is valid. -/
theorem C11_getName_fromName (names : List (List Nat)) (nm : List Nat) (j : Nat) (h : fromName names nm = some j) :
    j < names.length ∧ getName names j = nm := by
  rw [fromName_eq, List.findIdx?_eq_some_iff_getElem] at h
  obtain ⟨hj, he, _⟩ := h
  exact ⟨hj, by rw [getName_of_lt hj]; simpa using he⟩

/-- unknown names are refused, and only those. -/
theorem C11_fromName_unknown (names : List (List Nat)) (nm : List Nat) : fromName names nm = none ↔ nm ∉ names := by
  rw [fromName_eq, List.findIdx?_eq_none_iff]
  exact ⟨fun h hm => by simpa using h nm hm, fun h x hx => by simp; rintro rfl; exact h hx⟩

/-- with duplicates, `from_name` returns the FIRST element carrying the name (so the round trip fails exactly on
later duplicates — the `Phase` findings). -/
theorem C11_fromName_first (names : List (List Nat)) (nm : List Nat) (j : Nat) (h : fromName names nm = some j) :
    ∀ m, m < j → getName names m ≠ nm := by
  rw [fromName_eq, List.findIdx?_eq_some_iff_getElem] at h
  obtain ⟨hj, _, hf⟩ := h
  intro m hm
  rw [getName_of_lt (by omega)]
  simpa using hf m hm

example : fromName [[1], [2], [2]] (getName [[1], [2], [2]] 2) = some 1 ∧ fromName [[1], [2]] [3] = none := by decide

/-- SolarYear / LunarYear / SixtyCycleYear: `next` is the specification (year + n, refused outside the range). -/
theorem C11_year_spec (ok : Int → Bool) (y n : Int) : yearNext ok y n = Step.year ok y n := rfl

theorem yearNext_inv {ok : Int → Bool} {y a y1 : Int} (h : yearNext ok y a = some y1) : y1 = y + a ∧ ok y1 = true := by
  unfold yearNext at h
  obtain ⟨hk, e⟩ := Option.ite_none_right_eq_some.1 h
  exact ⟨(Option.some.inj e).symm, Option.some.inj e ▸ hk⟩

/-- the three laws and "moves by exactly n" for years. -/
theorem C11_year_laws (ok : Int → Bool) (y a b y1 : Int) :
    (ok y = true → yearNext ok y 0 = some y) ∧
    (yearNext ok y a = some y1 → y1 = y + a ∧ ok y1 = true) ∧
    (yearNext ok y a = some y1 → yearNext ok y1 b = yearNext ok y (a + b)) ∧
    (ok y = true → yearNext ok y a = some y1 → yearNext ok y1 (-a) = some y) := by
  refine ⟨fun h => by simp [yearNext, h], yearNext_inv, fun h => ?_, fun hk h => ?_⟩
  · obtain ⟨rfl, _⟩ := yearNext_inv h
    unfold yearNext
    rw [Int.add_assoc]
  · obtain ⟨rfl, _⟩ := yearNext_inv h
    unfold yearNext
    rw [show y + a + -a = y by omega]
    simp [hk]

/-- D15: the code's truncating carry `(year*size + i) / size` is floor division whenever the total is not negative. -/
theorem C11_carry_floor (size : Nat) (y i : Int) (h : 0 ≤ y * (size : Int) + i) :
    carryT size y i = (y * (size : Int) + i) / (size : Int) := Int.tdiv_eq_ediv_of_nonneg h

/-- …and a total that IS negative can never produce an accepted year ≥ 1 on either side: with a constructor that
refuses years < 1 the truncating pattern equals the specification for ALL step counts (refusals included). -/
theorem C11_lin_trunc_spec (size : Nat) (hs : 0 < size) (ok : Int → Int → Bool)
    (hok : ∀ y i, ok y i = true → 1 ≤ y) (y idx n : Int) :
    linNextT size ok y idx n = Step.lin size ok y idx n := by
  refine carryT_indexOf size hs (fun y i => if ok y i then some (y, i) else none) ?_ y idx n
  intro y y' i _ h h'
  have c : ∀ y, y ≤ 0 → ok y i = false := fun y h => by
    cases hc : ok y i with
    | false => rfl
    | true => have := hok _ _ hc; omega
  simp [c y h, c y' h']

/-- the repaired (floor) pattern equals the specification for every acceptance predicate (years ≤ 0 included). -/
theorem C11_lin_floor_spec (size : Nat) (hs : 0 < size) (ok : Int → Int → Bool) (y idx n : Int) :
    linNextF size ok y idx n = Step.lin size ok y idx n := by
  unfold linNextF Step.lin
  simp only
  rw [indexOf_add_eq size hs y, show carryF size y (idx + n) = (Step.unitAt size (Step.pos size y idx + n)).1 by
    unfold carryF Step.unitAt Step.pos; rw [Int.add_assoc]]

/-- the hypothesis of `C11_lin_trunc_spec` is needed: with years ≤ 0 accepted the truncating pattern is wrong
(this is the defect repaired in `SixtyCycleMonth::next` and `LunarFestival::next`). -/
example : linNextT 12 (fun y _ => lunarYearOk y) 1 0 (-13) = some (0, 11) ∧
    Step.lin 12 (fun y _ => lunarYearOk y) 1 0 (-13) = some (-1, 11) := by decide

/-- the constructors of the civil units refuse years below 1 -/
theorem solarPartOk_pos (y i : Int) (h : solarPartOk y i = true) : 1 ≤ y := by
  simp [solarPartOk, solarYearOk] at h; omega

theorem C11_half_spec (y i n : Int) : halfNext y i n = Step.lin 2 solarPartOk y i n :=
  C11_lin_trunc_spec 2 (by omega) _ solarPartOk_pos y i n

theorem C11_season_spec (y i n : Int) : seasonNext y i n = Step.lin 4 solarPartOk y i n :=
  C11_lin_trunc_spec 4 (by omega) _ solarPartOk_pos y i n

/-- SolarMonth (1-based month number). -/
theorem C11_month_spec (y m n : Int) :
    monthNext y m n = (Step.lin 12 solarPartOk y (m - 1) n).map fun r => (r.1, r.2 + 1) := by
  unfold monthNext
  rw [C11_lin_trunc_spec 12 (by omega) _ solarPartOk_pos]

theorem C11_sfest_spec (y i n : Int) : sfestNext y i n = Step.lin 10 sfestOk y i n :=
  C11_lin_trunc_spec 10 (by omega) _ (by intro y i h; simp [sfestOk, solarYearOk] at h; omega) y i n

/-- LunarFestival (repaired): lunar year 0 is accepted, so floor division is essential here. -/
theorem C11_lfest_spec (y i n : Int) : lfestNext y i n = Step.lin 13 lfestOk y i n :=
  C11_lin_floor_spec 13 (by omega) _ y i n

/-- "moves by exactly n units of its own size": an accepted step lands on the valid unit whose global position
`size*year + index` is n further. -/
theorem C11_lin_exact (size : Nat) (hs : 0 < size) (ok : Int → Int → Bool) (y i n y' i' : Int)
    (h : Step.lin size ok y i n = some (y', i')) :
    Step.pos size y' i' = Step.pos size y i + n ∧ 0 ≤ i' ∧ i' < (size : Int) ∧ ok y' i' = true := by
  obtain ⟨e, hk⟩ := (lin_eq_some_iff ..).1 h
  have hp := pos_unitAt size (Step.pos size y i + n)
  have hr := unitAt_range size hs (Step.pos size y i + n)
  rw [e] at hp hr
  exact ⟨hp, hr.1, hr.2, hk⟩

/-- …and it is accepted whenever that unit is in the supported range (no spurious refusal). -/
theorem C11_lin_total (size : Nat) (ok : Int → Int → Bool) (y i n : Int)
    (h : ok (Step.unitAt size (Step.pos size y i + n)).1 (Step.unitAt size (Step.pos size y i + n)).2 = true) :
    Step.lin size ok y i n = some (Step.unitAt size (Step.pos size y i + n)) :=
  (lin_eq_some_iff ..).2 ⟨rfl, h⟩

/-- stepping by 0 returns x. -/
theorem C11_lin_zero (size : Nat) (ok : Int → Int → Bool) (y i : Int)
    (h0 : 0 ≤ i) (h1 : i < (size : Int)) (hk : ok y i = true) : Step.lin size ok y i 0 = some (y, i) :=
  (lin_eq_some_iff ..).2 ⟨by rw [Int.add_zero, unitAt_pos size y i h0 h1], hk⟩

/-- stepping by a then b equals stepping by a + b — including whether the second step is refused. -/
theorem C11_lin_add (size : Nat) (hs : 0 < size) (ok : Int → Int → Bool) (y i a b y1 i1 : Int)
    (h : Step.lin size ok y i a = some (y1, i1)) :
    Step.lin size ok y1 i1 b = Step.lin size ok y i (a + b) := by
  obtain ⟨hp, _, _, _⟩ := C11_lin_exact size hs ok y i a y1 i1 h
  unfold Step.lin
  simp only
  have : Step.pos size y1 i1 + b = Step.pos size y i + (a + b) := by omega
  rw [this]

/-- stepping by a then -a returns x. -/
theorem C11_lin_inv (size : Nat) (hs : 0 < size) (ok : Int → Int → Bool) (y i a y1 i1 : Int)
    (h0 : 0 ≤ i) (h1 : i < (size : Int)) (hk : ok y i = true)
    (h : Step.lin size ok y i a = some (y1, i1)) :
    Step.lin size ok y1 i1 (-a) = some (y, i) := by
  rw [C11_lin_add size hs ok y i a (-a) y1 i1 h]
  rw [Int.add_right_neg]
  exact C11_lin_zero size ok y i h0 h1 hk

example : halfNext 1 0 (-1) = none ∧ halfNext 1 1 (-1) = some (1, 0) ∧ monthNext 2023 12 1 = some (2024, 1) ∧
    monthNext 9999 12 1 = none ∧ seasonNext 2000 0 (-5) = some (1998, 3) := by decide

/-- `SolarTerm::from_index` on an index already in 0..23: a year ≥ 0 is kept (the second normalisation of `next` does
nothing), a year ≤ 0 stays ≤ 0. -/
theorem termFromIndex_normal (Y I : Int) (h0 : 0 ≤ I) (h1 : I < 24) :
    (0 ≤ Y → termFromIndex Y I = (Y, I)) ∧ (Y ≤ 0 → (termFromIndex Y I).1 ≤ 0) := by
  unfold termFromIndex
  refine ⟨fun hY => ?_, fun hY => ?_⟩
  · rw [C11_carry_floor _ _ _ (by omega), indexOf_of_range _ _ h0 (by omega)]
    congr 1; omega
  · show carryT 24 Y I ≤ 0
    by_cases hz : Y * 24 + I < 0
    · exact tdiv_nonpos_of_neg _ _ (by omega) (by omega)
    · rw [C11_carry_floor _ _ _ (by omega)]; omega

/-- SolarTerm accepts any year; its `next` (truncating, normalised twice) is the specification exactly when the total
`24*year + index + n` is not negative — which every result in the supported years 1..9999 satisfies. -/
theorem C11_term_next (y idx n : Int) (h : 0 ≤ y * 24 + idx + n) :
    termNext y idx n = Step.unitAt 24 (Step.pos 24 y idx + n) := by
  have hr := unitAt_range 24 (by omega) (Step.pos 24 y idx + n)
  have hq : carryT 24 y (idx + n) = (Step.unitAt 24 (Step.pos 24 y idx + n)).1 := by
    rw [C11_carry_floor _ _ _ (by omega), ← Int.add_assoc]; rfl
  have h0 : 0 ≤ (Step.unitAt 24 (Step.pos 24 y idx + n)).1 := by
    unfold Step.unitAt Step.pos; omega
  unfold termNext
  simp only
  rw [hq, indexOf_add_eq 24 (by omega) y, (termFromIndex_normal _ _ hr.1 hr.2).1 h0]

/-- in particular (any start, any n): if the code's result OR the specified result lies in the supported years 1..9999
then the code's result is the specified one; the three laws then follow from `C11_lin_*`. -/
theorem C11_term_in_range (y idx n : Int)
    (hr : solarYearOk (termNext y idx n).1 = true ∨ solarYearOk (Step.unitAt 24 (Step.pos 24 y idx + n)).1 = true) :
    some (termNext y idx n) = Step.lin 24 solarPartOk y idx n := by
  have key : 0 ≤ y * 24 + idx + n := by
    rcases hr with hr | hr
    · -- a negative total gives a first year ≤ 0, and the second normalisation keeps it ≤ 0
      apply Classical.byContradiction; intro hneg
      have hi := C11_indexOf_range (idx + n) 24 (by omega)
      have := (termFromIndex_normal (carryT 24 y (idx + n)) _ hi.1 hi.2).2
        (tdiv_nonpos_of_neg _ _ (by omega) (by omega))
      have hr' : 1 ≤ (termFromIndex (carryT 24 y (idx + n)) (indexOf (idx + n) 24)).1 := by
        simp [solarYearOk] at hr; exact hr.1
      omega
    · unfold Step.unitAt Step.pos at hr
      simp [solarYearOk] at hr; omega
  rw [C11_term_next y idx n key] at hr ⊢
  unfold Step.lin
  simp [solarPartOk, hr.elim id id]

/-- D15 made concrete: below year 0 the truncating carry of SolarTerm is off by one year (outside the supported range). -/
example : termNext 1 0 (-25) = (0, 23) ∧ Step.unitAt 24 (Step.pos 24 1 0 + -25) = (-1, 23) := by decide

/-- the index-in-year of the month pillar follows the pillar round the 60-cycle. -/
theorem C11_scmonth_index (sc n : Int) :
    scIndexInYear (loopNext 60 sc n) = Step.cyc 12 (scIndexInYear sc) n := by
  unfold Step.cyc
  rw [scIndexInYear_eq, scIndexInYear_eq, loopNext_eq 60 (by omega)]
  omega

/-- `SixtyCycleMonth::next` (after the repair): the year/index-in-year part is the linear specification with 12
months per year on sexagenary years -1..9999, the pillar steps round the 60-cycle. -/
theorem C11_scmonth_spec (y sc n : Int) :
    scMonthNext y sc n =
      (Step.lin 12 (fun y _ => lunarYearOk y) y (scIndexInYear sc) n).map fun r => (r.1, loopNext 60 sc n) := by
  unfold scMonthNext Step.lin Step.unitAt Step.pos carryF
  simp only
  rw [Int.add_assoc]
  split <;> simp

theorem lin_index (size : Nat) (ok : Int → Int → Bool) (y i n : Int) (r : Int × Int)
    (h : Step.lin size ok y i n = some r) : r.2 = Step.cyc size i n := by
  rw [← ((lin_eq_some_iff ..).1 h).1]
  unfold Step.unitAt Step.pos Step.cyc
  simp only
  rw [Int.add_assoc, Int.mul_add_emod_self_right]

/-- an accepted `SixtyCycleMonth::next` is an accepted step of (year, index in year) together with the step of the
pillar: the two components move in step because of `C11_scmonth_index`. -/
theorem scMonthNext_inv {y sc a y1 sc1 : Int} (h : scMonthNext y sc a = some (y1, sc1)) :
    Step.lin 12 (fun y _ => lunarYearOk y) y (scIndexInYear sc) a = some (y1, scIndexInYear sc1) ∧
      sc1 = loopNext 60 sc a := by
  rw [C11_scmonth_spec] at h
  obtain ⟨r, hl, e⟩ := Option.map_eq_some_iff.1 h
  obtain ⟨rfl, rfl⟩ := Prod.mk.inj e
  exact ⟨by rw [C11_scmonth_index, ← lin_index _ _ _ _ _ r hl, hl], rfl⟩

/-- the three laws for SixtyCycleMonth states (year, pillar), with results in the accepted years -1..9999. -/
theorem C11_scmonth_laws (y sc a b y1 sc1 : Int) (h0 : 0 ≤ sc) (h1 : sc < 60) :
    (lunarYearOk y = true → scMonthNext y sc 0 = some (y, sc)) ∧
    (scMonthNext y sc a = some (y1, sc1) →
      y1 * 12 + scIndexInYear sc1 = y * 12 + scIndexInYear sc + a ∧ sc1 = Step.cyc 60 sc a) ∧
    (scMonthNext y sc a = some (y1, sc1) → scMonthNext y1 sc1 b = scMonthNext y sc (a + b)) ∧
    (lunarYearOk y = true → scMonthNext y sc a = some (y1, sc1) → scMonthNext y1 sc1 (-a) = some (y, sc)) := by
  have hr : 0 ≤ scIndexInYear sc ∧ scIndexInYear sc < 12 := by
    rw [scIndexInYear_eq]
    omega
  have zero : lunarYearOk y = true → scMonthNext y sc 0 = some (y, sc) := by
    intro hk
    rw [C11_scmonth_spec, C11_lin_zero 12 _ y _ hr.1 (by omega) hk]
    simp [C11_cyc_zero 60 sc h0 (by exact h1)]
  refine ⟨zero, ?_, ?_, ?_⟩
  · intro h
    obtain ⟨hl, hs⟩ := scMonthNext_inv h
    obtain ⟨hp, _, _, _⟩ := C11_lin_exact 12 (by omega) _ y _ a y1 _ hl
    unfold Step.pos at hp
    refine ⟨hp, ?_⟩
    rw [hs]; exact (C11_cyc_next_spec 60 (by omega) sc a).1
  · intro h
    obtain ⟨hl, hs⟩ := scMonthNext_inv h
    rw [C11_scmonth_spec, C11_scmonth_spec, C11_lin_add 12 (by omega) _ y _ a b y1 _ hl, hs, C11_cyc_add 60 (by omega)]
  · intro hk h
    obtain ⟨hl, hs⟩ := scMonthNext_inv h
    rw [C11_scmonth_spec, C11_lin_inv 12 (by omega) _ y _ a y1 _ hr.1 (by omega) hk hl, hs]
    simp [C11_cyc_inv 60 sc a h0 (by exact h1)]

/-- `SixtyCycleYear::get_first_month` exists for every year, is the 寅 month (index-in-year 0) and carries the stem
given by the five-tigers rule `((year stem) + 1) * 2`. -/
theorem C11_scmonth_first (y : Int) : ∃ sc, scFirstMonth y = some sc ∧ 0 ≤ sc ∧ sc < 60 ∧ scIndexInYear sc = 0 ∧
    sc % 10 = (((y - 4) % 10 + 1) * 2) % 10 := by
  unfold scFirstMonth
  simp only
  have hh : loopFromIndex 10 ((scHeavenStem (loopFromIndex 60 (y - 4)) + 1) * 2) = (((y - 4) % 10 + 1) * 2) % 10 := by
    unfold loopFromIndex
    rw [scHeavenStem_eq, indexOf_eq_emod _ 10 (by omega), indexOf_eq_emod _ 60 (by omega)]
    omega
  rw [hh]
  have hc : ∃ r : Int, (0 ≤ r ∧ r < 5) ∧ (((y - 4) % 10 + 1) * 2) % 10 = 2 * r :=
    ⟨(((y - 4) % 10 + 1) * 2) % 10 / 2, by omega, by omega⟩
  obtain ⟨r, hr, e⟩ := hc
  rw [e]
  have : r = 0 ∨ r = 1 ∨ r = 2 ∨ r = 3 ∨ r = 4 := by omega
  rcases this with rfl | rfl | rfl | rfl | rfl
  · exact ⟨50, by decide, by decide, by decide, by decide, by decide⟩
  · exact ⟨2, by decide, by decide, by decide, by decide, by decide⟩
  · exact ⟨14, by decide, by decide, by decide, by decide, by decide⟩
  · exact ⟨26, by decide, by decide, by decide, by decide, by decide⟩
  · exact ⟨38, by decide, by decide, by decide, by decide, by decide⟩

/-- `SixtyCycleMonth::from_index(year, k)` for ANY integer k: the month at position `12*year + k` (year carried by
floor division, refused outside -1..9999), pillar = first month's pillar stepped by k. -/
theorem C11_scmonth_fromIndex (y k : Int) (hy : lunarYearOk y = true) :
    ∃ sc0, scFirstMonth y = some sc0 ∧
      scMonthFromIndex y k = (Step.lin 12 (fun y _ => lunarYearOk y) y 0 k).map fun r => (r.1, loopNext 60 sc0 k) := by
  obtain ⟨sc0, h, _, _, hi, _⟩ := C11_scmonth_first y
  refine ⟨sc0, h, ?_⟩
  unfold scMonthFromIndex
  simp only [hy, if_true, h, Option.bind_some]
  rw [C11_scmonth_spec, hi]

example : scMonthNext 1 2 (-13) = some (-1, 49) ∧ scMonthNext (-1) 49 13 = some (1, 2) ∧ scIndexInYear 2 = 0 := by decide

/-- DecadeFortune / Fortune: the index moves by exactly n; the three laws. -/
theorem C11_fortune_laws (i a b : Int) :
    fortuneNext i 0 = i ∧ fortuneNext (fortuneNext i a) b = fortuneNext i (a + b) ∧ fortuneNext (fortuneNext i a) (-a) = i := by
  unfold fortuneNext; omega

end Tyme

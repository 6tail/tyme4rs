import Tyme.Thm.C02
import Tyme.Thm.C03
import Tyme.Lemmas.LunarTotal
import Tyme.Facts.C13Win
/-!
C02, second file — TOTALITY of the guess-and-walk conversion and the unconditional round trip.

`C02_sls`/`C02_lsl` (Thm/C02.lean) speak about conversions that *return*. Here: `SolarDay::get_lunar_day` DOES return for
every valid civil date in the interior of a tiling interval (the walk of at most 40 rounds each way suffices), so the
round trip holds for every such date with no acceptance hypothesis. `C02_roundtrip_real` instantiates it for the data
re-extracted from /repo in this run. The file also holds the totality results of C03 (`C03_step_total`, `cumI_le_total`,
`C03_next_total`).
-/
namespace Tyme
open Lunar Cont

/-- `span_of_year` as a C02 statement -/
theorem C02_interval_of_year (E : Eph) (nf : NewYearFacts E) (a b : Int) (ha0 : 0 ≤ a) (hb9 : b + 1 ≤ 9999)
    (Y M D : Int) (hv : Civil.valid Y M D = true) (hay : a = 0 ∨ a + 1 ≤ Y) (hyb : Y + 1 ≤ b) :
    a ≤ Y ∧ Y ≤ b ∧ first E ⟨a, 0⟩ ≤ jdn Y M D ∧ jdn Y M D < first E ⟨b + 1, 0⟩ :=
  span_of_year nf a b ha0 hb9 Y M D hv hay hyb

/-- TOTALITY + ROUND TRIP, any ephemeris: every valid civil date of a year strictly inside a tiling interval converts,
the result is a well-formed lunar date on the same day number, and converting back (both by `get_solar_day` and by
re-constructing the lunar date from its numbers) returns the inputs. -/
theorem C02_roundtrip_total (E : Eph) (hl : ∀ y, E.leap y ≤ 12) (nf : NewYearFacts E) (hF1 : 1721424 ≤ E.mFirst 1 0)
    (a b : Int) (ha0 : 0 ≤ a) (hb9 : b + 1 ≤ 9999) (ht : TilesOn E a b)
    (Y M D : Int) (hv : Civil.valid Y M D = true) (hay : a = 0 ∨ a + 1 ≤ Y) (hyb : Y + 1 ≤ b) :
    ∃ r, ofSolar E Y M D = some r ∧ WF E r.1 ∧ 1 ≤ r.2 ∧ r.2 ≤ len E r.1 ∧ first E r.1 + r.2 - 1 = jdn Y M D ∧
      daySolar E r.1 r.2 = some (Y, M, D) ∧ dayNew E r.1.y (monthWithLeap E r.1) r.2 = some r := by
  obtain ⟨i1, i2, i3, i4⟩ := C02_interval_of_year E nf a b ha0 hb9 Y M D hv hay hyb
  obtain ⟨r, hr⟩ := ofSolar_total E hl nf hF1 a b ha0 hb9 ht Y M D hv i1 i2 i3 i4
  obtain ⟨w, _, _, e, k1, k2⟩ := C02_walk_spec E hl a b ht Y M D i1 i2 i3 i4 r hr
  obtain ⟨s1, s2⟩ := C02_sls E hl a b ht Y M D hv i1 i2 i3 i4 r hr
  exact ⟨r, hr, w, k1, k2, e, s1, s2⟩

/-- the first month of lunar year 1 of this run's data does not start before 0001-01-01 -/
theorem C02_first_year_real : 1721424 ≤ realEph.mFirst 1 0 := by decide +kernel

/-- …for the data re-extracted from /repo: every valid civil date of the years 1..6, 10..21, 26..234, 241..9997 (all
years whose lunar neighbourhood is free of the five D4 junction years) converts and round-trips. -/
theorem C02_roundtrip_real (Y M D : Int) (hv : Civil.valid Y M D = true)
    (hy : (1 ≤ Y ∧ Y ≤ 6) ∨ (10 ≤ Y ∧ Y ≤ 21) ∨ (26 ≤ Y ∧ Y ≤ 234) ∨ (241 ≤ Y ∧ Y ≤ 9997)) :
    ∃ r, ofSolar realEph Y M D = some r ∧ WF realEph r.1 ∧ 1 ≤ r.2 ∧ r.2 ≤ len realEph r.1 ∧
      first realEph r.1 + r.2 - 1 = jdn Y M D ∧
      daySolar realEph r.1 r.2 = some (Y, M, D) ∧ dayNew realEph r.1.y (monthWithLeap realEph r.1) r.2 = some r := by
  exact C02_roundtrip_total realEph realEph_leap_le realEph_newYearFacts C02_first_year_real (Y - 1) (Y + 1) (by omega) (by omega)
    (realEph_tiles_around Y hy) Y M D hv (Or.inr (by omega)) (by omega)

/-- TOTALITY + ROUND TRIP the other way, any ephemeris: every day k of every well-formed lunar month x of a lunar year
at least two inside a tiling interval HAS a civil date (`get_solar_day` returns), that date lies in the civil years
x.y−1 .. x.y+1, and converting it back returns exactly (x, k). -/
theorem C02_lsl_total (E : Eph) (hl : ∀ y, E.leap y ≤ 12) (nf : NewYearFacts E) (hF1 : 1721424 ≤ E.mFirst 1 0)
    (a b : Int) (ha0 : 0 ≤ a) (hb9 : b + 1 ≤ 9999) (ht : TilesOn E a b)
    (x : Month) (k : Int) (hx : WF E x) (hxa : a + 2 ≤ x.y) (hxb : x.y + 2 ≤ b) (hk1 : 1 ≤ k) (hk2 : k ≤ len E x) :
    ∃ Y M D, daySolar E x k = some (Y, M, D) ∧ Civil.valid Y M D = true ∧ jdn Y M D = first E x + k - 1 ∧
      x.y - 1 ≤ Y ∧ Y ≤ x.y + 1 ∧ ofSolar E Y M D = some (x, k) := by
  obtain ⟨m1, m2⟩ := month_in_year ht ⟨hx, by omega, by omega⟩
  obtain ⟨c0, c1⟩ := nf.year_in_civil x.y (by omega) (by omega)
  have c0 := c0 (by omega)
  obtain ⟨v, ej, y1, y2⟩ := jdn_year_range (first E x + k - 1) (x.y - 1) (x.y + 1) (by omega) (by omega) (by omega) (by omega) (by omega)
  generalize hd : ofJdn (first E x + k - 1) = d at *
  obtain ⟨Y, M, D⟩ := d
  have hv : Civil.valid Y M D = true := v
  have hj : jdn Y M D = first E x + k - 1 := ej
  have hds := (daySolar_eq_some E x k Y M D).2 ⟨hv, hj⟩
  obtain ⟨r, hr, _⟩ := C02_roundtrip_total E hl nf hF1 a b ha0 hb9 ht Y M D hv (Or.inr (by dsimp only at y1; omega)) (by dsimp only at y2; omega)
  have := C02_lsl E hl a b ha0 hb9 ht x k hx (by omega) (by omega) hk1 hk2 Y M D hds (by dsimp only at y1; omega) (by dsimp only at y2; omega)
    (hj ▸ jdn_ge_first Y M D hv) (hj ▸ jdn_le_last Y M D hv) r hr
  rw [this] at hr
  exact ⟨Y, M, D, hds, hv, hj, y1, y2, hr⟩

/-- …for the data re-extracted from /repo: every day of every lunar month of the lunar years 2..5, 11..20, 27..233,
242..9996 converts to a civil date and back to itself. -/
theorem C02_lsl_total_real (x : Month) (k : Int) (hx : WF realEph x) (hk1 : 1 ≤ k) (hk2 : k ≤ len realEph x)
    (hy : (2 ≤ x.y ∧ x.y ≤ 5) ∨ (11 ≤ x.y ∧ x.y ≤ 20) ∨ (27 ≤ x.y ∧ x.y ≤ 233) ∨ (242 ≤ x.y ∧ x.y ≤ 9996)) :
    ∃ Y M D, daySolar realEph x k = some (Y, M, D) ∧ Civil.valid Y M D = true ∧ jdn Y M D = first realEph x + k - 1 ∧
      ofSolar realEph Y M D = some (x, k) := by
  obtain ⟨Y, M, D, q1, q2, q3, _, _, q6⟩ := C02_lsl_total realEph realEph_leap_le realEph_newYearFacts C02_first_year_real
    (x.y - 2) (x.y + 2) (by omega) (by omega) (realEph_tilesOn _ _ (by omega) (by omega) (fun z _ _ => by omega))
    x k hx (by omega) (by omega) hk1 hk2
  exact ⟨Y, M, D, q1, q2, q3, q6⟩

/-- C03, totality of single steps: every well-formed lunar month except the very last one (9999-12) has a successor and
every one except the very first (0-1) a predecessor, exactly one place away on the listing — any ephemeris with leap ≤ 12. -/
theorem C03_step_total (E : Eph) (hl : ∀ y, E.leap y ≤ 12) (x : Month) (hx : WF E x) :
    ((x.idx + 1 < E.cnt x.y ∨ x.y + 1 ≤ 9999) → ∃ x', next E x 1 = some x' ∧ WF E x' ∧ gpos E x' = gpos E x + 1) ∧
    (¬ (x.y = 0 ∧ x.idx = 0) → ∃ x', next E x (-1) = some x' ∧ WF E x' ∧ gpos E x' = gpos E x + -1) := by
  constructor
  · intro h
    have h' := next_one E hl x hx h
    exact ⟨_, h', C03_next_pos E hl x _ hx 1 h'⟩
  · intro h
    obtain ⟨x', h', _⟩ := next_neg_one E hl x hx h
    exact ⟨x', h', C03_next_pos E hl x x' hx (-1) h'⟩

theorem cumI_le_total (E : Eph) (y : Int) (h0 : 0 ≤ y) (h1 : y ≤ 10000) : cumI E y ≤ cumI E 10000 :=
  cumI_le_of_le E y 10000 h0 h1

/-- C03, TOTALITY of `LunarMonth::next(n)` for every n: from a well-formed month, whenever the target position lies on
the listing (0 ≤ position + n < number of months of lunar years 0..9999), the call returns — and (`C03_next_pos`) what it
returns is the month exactly n places away. Any ephemeris with leap ≤ 12. -/
theorem C03_next_total (E : Eph) (hl : ∀ y, E.leap y ≤ 12) (x : Month) (hx : WF E x) (n : Int)
    (h0 : 0 ≤ gpos E x + n) (h1 : gpos E x + n < cumI E 10000) :
    ∃ x', next E x n = some x' ∧ WF E x' ∧ gpos E x' = gpos E x + n :=
  next_total E hl x hx n h0 h1

/-- non-vacuity: a concrete date meets the hypotheses -/
example : Civil.valid 2024 2 10 = true ∧ (241 ≤ (2024 : Int) ∧ (2024 : Int) ≤ 9997) := by decide

end Tyme

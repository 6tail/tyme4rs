import Tyme.Lemmas.Series
import Tyme.Facts.C15Dec
import Tyme.Facts.C15Pillar
/-!
C15 — term-anchored day series: Nines, Dog days, Plum rains, pentads, commanding stem. Property theorems (`C15_*`).

Model: `Series.nine/dog/plum/pheno/hide` (SolarDay::get_nine_day, get_dog_day, get_plum_rain_day, get_phenology_day,
get_hide_heaven_stem_day — the last one AFTER the repair of D21, fixes/C15-hide-stem.diff) over the ephemeris
re-extracted from /repo (`realEph`). Spec: Spec/Series.lean (first principles: day numbers, the term-day table `T`,
stem/branch = (day number + 49) mod 10 / 12, the classical allotment table written out independently).

`T g` is the civil day number of the g-th term, g = 24·(year − 1) + index. Every statement is for EVERY civil date
of the years 2..9998. Dog days and Plum rains obtain the stem of an anchor day through the lunar calendar
(get_lunar_day): their statements are "whatever the code returns (it is not refused) is the spec value" — the
same partial-correctness form as C02/C07, which they rest on; the D4 junction years are covered by computing the
15 anchor days outright, so no year is excluded. Refusals never occur on the K run (all 3.65 M days).
-/
namespace Tyme
open Term SeriesSpec Series Lunar Cont

/-- the term-day table of the current tree -/
local notation "T" => Eph.termDay realEph

/-- TABLE FACT (complete enumeration of 240,000 records, lifted): the winter solstice of December y lies in
December 1..31 of civil year y, for y = 1..9999. -/
theorem C15_solstice_december (y : Nat) (h1 : 1 ≤ y) (h2 : y ≤ 9999) :
    jdn (y : Int) 12 1 ≤ T (24 * y) ∧ T (24 * y) ≤ jdn (y : Int) 12 1 + 30 := realEph_solstice_december y h1 h2

/-- successive winter solstices are at least 336 days apart (24 gaps of ≥ 14 days), so the 81 Nine days, the Dog
days (≤ 70 days after a summer solstice) and the Plum rains of different years never meet -/
theorem C15_year_gap (g : Nat) (h1 : 1 ≤ g) (h2 : g + 24 ≤ 239977) : T g + 336 ≤ T (g + 24) ∧ T (g + 24) ≤ T g + 384 := by
  have := term_span realEph_termFacts g (g + 24) h1 (by omega) h2; omega

/-- the (n+1)-th Geng day on or after s is the first one plus 10·n, and the first is within ten days -/
theorem C15_nth_geng (n : Nat) (s j : Int) :
    IsNth isGeng s n j ↔ j = s + (6 - stemOf s) % 10 + 10 * n := isNth_geng_iff n s j

theorem C15_first_bing (s j : Int) : IsFirst isBing s j ↔ j = s + (2 - stemOf s) % 10 := isFirst_bing_iff s j

theorem C15_first_wei (s j : Int) : IsFirst isWei s j ↔ j = s + (7 - branchOf s) % 12 := isFirst_wei_iff s j

/-- get_nine_day is never refused and equals the spec function counted from the latest winter solstice on or
before the day — every civil date of 2..9998. -/
theorem C15_nine (Y M D : Int) (hv : Civil.valid Y M D = true) (h1 : 2 ≤ Y) (h2 : Y ≤ 9998) :
    ∃ g : Nat, 1 ≤ g ∧ g + 24 ≤ 239977 ∧ IsLatestKind T 0 (jdn Y M D) g ∧
      nine realEph Y (jdn Y M D) = some (nineAt (T g) (jdn Y M D)) := by
  obtain ⟨g, b1, b2, hk, e, _⟩ := nine_spec realEph realEph_termFacts Y M D hv h1 h2
  exact ⟨g, b1, b2, hk, e⟩

/-- "The 81 days from each winter-solstice day are the nine Nines, nine days each, and no other day is one":
the code reports day i of Nine k exactly when the day is 9·k + i days after SOME winter-solstice day (any year). -/
theorem C15_nine_iff (Y M D : Int) (hv : Civil.valid Y M D = true) (h1 : 2 ≤ Y) (h2 : Y ≤ 9998) (k i : Int) :
    nine realEph Y (jdn Y M D) = some (some (k, i)) ↔
      ∃ g : Nat, 1 ≤ g ∧ g ≤ 239977 ∧ IsNineOf T g (jdn Y M D) k i := by
  obtain ⟨g, _, _, _, e, hiff⟩ := nine_spec realEph realEph_termFacts Y M D hv h1 h2
  rw [e, Option.some.injEq]; exact hiff k i

/-- …and the code says "not a Nine day" exactly for the days that are not within 81 days after any winter solstice -/
theorem C15_nine_none (Y M D : Int) (hv : Civil.valid Y M D = true) (h1 : 2 ≤ Y) (h2 : Y ≤ 9998) :
    nine realEph Y (jdn Y M D) = some none ↔
      ¬ ∃ (g : Nat) (k i : Int), 1 ≤ g ∧ g ≤ 239977 ∧ IsNineOf T g (jdn Y M D) k i := by
  obtain ⟨g, _, _, _, e, hiff⟩ := nine_spec realEph realEph_termFacts Y M D hv h1 h2
  rw [e, Option.some.injEq]; exact eq_none_iff_of_some_iff hiff

/-- the years free of the five D4 junction years 8, 23, 24, 236, 239 -/
def C15GoodYear (Y : Int) : Prop :=
  (2 ≤ Y ∧ Y ≤ 7) ∨ (9 ≤ Y ∧ Y ≤ 22) ∨ (25 ≤ Y ∧ Y ≤ 235) ∨ (237 ≤ Y ∧ Y ≤ 238) ∨ (240 ≤ Y ∧ Y ≤ 9998)

theorem C15_goodYear_iff (Y : Int) :
    C15GoodYear Y ↔ 2 ≤ Y ∧ Y ≤ 9998 ∧ Y ≠ 8 ∧ Y ≠ 23 ∧ Y ≠ 24 ∧ Y ≠ 236 ∧ Y ≠ 239 := by
  unfold C15GoodYear; omega

/-- ANCHOR DAYS, TOTAL: on the Grain-in-Ear, summer-solstice and Slight-Heat day (i = 11, 12, 13) of every civil year
but the five junction years, `get_lunar_day().get_sixty_cycle()` returns, and the pillar is (day number + 49) mod 60. -/
theorem C15_anchor_total_real (Y : Int) (hy : C15GoodYear Y) (i : Int) (hi : 11 ≤ i ∧ i ≤ 13) :
    pillarOf realEph (T (24 * (Y - 1) + i).toNat) = some ((T (24 * (Y - 1) + i).toNat + 49) % 60) := by
  -- a mid-year day needs its own lunar year only: the one-year interval [Y, Y] tiles
  have hg := (C15_goodYear_iff Y).1 hy
  have ht : TilesOn realEph Y Y := realEph_tilesOn Y Y (by omega) (by omega) fun y y1 y2 => by
    obtain rfl : y = Y := by omega
    omega
  exact term_pillar realEph realEph_leap_le realEph_termFacts realEph_newYearFacts C02_first_year_real Y Y (by omega) (by omega) ht Y
    (by omega) (Int.le_refl _) (Int.le_refl _) i (by omega)

/-- …and on the 15 anchor days of the five junction years by computation: every civil year 2..9998 -/
theorem C15_anchor_total_all (Y : Int) (h1 : 2 ≤ Y) (h2 : Y ≤ 9998) (i : Int) (hi : 11 ≤ i ∧ i ≤ 13) :
    pillarOf realEph (T (24 * (Y - 1) + i).toNat) = some ((T (24 * (Y - 1) + i).toNat + 49) % 60) := by
  by_cases hg : C15GoodYear Y
  · exact C15_anchor_total_real Y hg i hi
  · have hY : Y = 8 ∨ Y = 23 ∨ Y = 24 ∨ Y = 236 ∨ Y = 239 := by unfold C15GoodYear at hg; omega
    have := c15_bad_year_pillars Y.toNat (by simp only [List.mem_cons, List.not_mem_nil, or_false]; omega)
      i.toNat (by simp only [List.mem_cons, List.not_mem_nil, or_false]; omega)
    rw [show 24 * (Y.toNat - 1) + i.toNat = (24 * (Y - 1) + i).toNat by omega] at this
    exact eq_of_beq this

/-- get_dog_day: whatever it returns (i.e. unless the lunar conversion of the solstice day were refused) is the spec
function of the latest summer-solstice day on or before the day and the Start-of-Autumn day that follows it —
every civil date of 2..9998, no year excluded. -/
theorem C15_dog (Y M D : Int) (hv : Civil.valid Y M D = true) (h1 : 2 ≤ Y) (h2 : Y ≤ 9998)
    (r : Option (Int × Int)) (h : dog realEph Y (jdn Y M D) = some r) :
    ∃ g : Nat, 1 ≤ g ∧ g + 24 ≤ 239977 ∧ IsLatestKind T 12 (jdn Y M D) g ∧
      r = dogAt (T g) (T (g + 3)) (jdn Y M D) := by
  obtain ⟨g, b1, b2, hk, e, _⟩ := dog_spec realEph realEph_termFacts Y M D hv h1 h2 (C15_anchor_total_all Y h1 h2 12 (by omega))
  exact ⟨g, b1, b2, hk, Option.some.inj (h.symm.trans e)⟩

/-- "The Dog days run from the third Geng day on or after the summer-solstice day: ten days, then ten or twenty days
according to whether the fifth Geng day precedes the start-of-autumn day, then ten days, and no other day is one":
the code reports day i of period k exactly when the day is that day counted from SOME year's summer solstice. -/
theorem C15_dog_iff (Y M D : Int) (hv : Civil.valid Y M D = true) (h1 : 2 ≤ Y) (h2 : Y ≤ 9998)
    (r : Option (Int × Int)) (h : dog realEph Y (jdn Y M D) = some r) (k i : Int) :
    r = some (k, i) ↔
      ∃ g : Nat, 1 ≤ g ∧ g + 3 ≤ 239977 ∧ g % 24 = 12 ∧ IsDogOf (T g) (T (g + 3)) (jdn Y M D) k i := by
  obtain ⟨g, _, _, _, e, hiff⟩ := dog_spec realEph realEph_termFacts Y M D hv h1 h2 (C15_anchor_total_all Y h1 h2 12 (by omega))
  rw [Option.some.inj (h.symm.trans e)]; exact hiff k i

/-- get_plum_rain_day: whatever it returns is the spec function of the latest Grain-in-Ear day on or before the day
and the Slight-Heat day two terms later — every civil date of 2..9998. -/
theorem C15_plum (Y M D : Int) (hv : Civil.valid Y M D = true) (h1 : 2 ≤ Y) (h2 : Y ≤ 9998)
    (r : Option (Int × Int)) (h : plum realEph Y (jdn Y M D) = some r) :
    ∃ g : Nat, 1 ≤ g ∧ g + 24 ≤ 239977 ∧ IsLatestKind T 11 (jdn Y M D) g ∧
      r = plumAt (T g) (T (g + 2)) (jdn Y M D) := by
  obtain ⟨g, b1, b2, hk, e, _⟩ := plum_spec realEph realEph_termFacts Y M D hv h1 h2 (C15_anchor_total_all Y h1 h2 11 (by omega))
    (C15_anchor_total_all Y h1 h2 13 (by omega))
  exact ⟨g, b1, b2, hk, Option.some.inj (h.symm.trans e)⟩

/-- "Plum rains run from the first Bing day on or after Grain-in-Ear to the first Wei day on or after Slight Heat"
(days before the leaving day: "entering", index = days since the entering day; the leaving day itself: "leaving",
index 0), and no other day is one — counted from SOME year's Grain-in-Ear day. -/
theorem C15_plum_iff (Y M D : Int) (hv : Civil.valid Y M D = true) (h1 : 2 ≤ Y) (h2 : Y ≤ 9998)
    (r : Option (Int × Int)) (h : plum realEph Y (jdn Y M D) = some r) (k i : Int) :
    r = some (k, i) ↔
      ∃ g : Nat, 1 ≤ g ∧ g + 2 ≤ 239977 ∧ g % 24 = 11 ∧ IsPlumOf (T g) (T (g + 2)) (jdn Y M D) k i := by
  obtain ⟨g, _, _, _, e, hiff⟩ := plum_spec realEph realEph_termFacts Y M D hv h1 h2 (C15_anchor_total_all Y h1 h2 11 (by omega))
    (C15_anchor_total_all Y h1 h2 13 (by omega))
  rw [Option.some.inj (h.symm.trans e)]; exact hiff k i

/-- get_term_day (C06) is never refused on a civil date of the years 2..9998 -/
theorem C15_term_total (Y M D : Int) (hv : Civil.valid Y M D = true) (h1 : 2 ≤ Y) (h2 : Y ≤ 9998) :
    ∃ g k, ofDay realEph Y M D = some (g, k) := by
  obtain ⟨g, k, h, _⟩ := term_of_day realEph realEph_termFacts Y M D hv h1 h2
  exact ⟨g, k, h⟩

/-- get_phenology_day = the spec function of the day's term: pentad 3·(term index) + min(2, ⌊n/5⌋), n = days into the
term — every civil date of 2..9998, for the term the look-up of C06 returns (it always returns there: `C15_term_total`). -/
theorem C15_pentad (Y M D : Int) (hv : Civil.valid Y M D = true) (h1 : 2 ≤ Y) (h2 : Y ≤ 9998) (g : Nat) (k : Int)
    (h : ofDay realEph Y M D = some (g, k)) :
    IsLatest T (jdn Y M D) g ∧ pheno realEph Y M D = some (pentadAt (g % 24) (jdn Y M D - T g)) := by
  obtain ⟨g', k', h', a, _, e, _⟩ := pheno_spec realEph realEph_termFacts Y M D hv h1 h2
  obtain ⟨rfl, rfl⟩ := Prod.mk.inj (Option.some.inj (h.symm.trans h'))
  exact ⟨a, e⟩

/-- the pentad number is one of 0..71, the position 0..2, the day inside the pentad 0..4 (0..5 in the third) -/
theorem C15_pentad_range (Y M D : Int) (hv : Civil.valid Y M D = true) (h1 : 2 ≤ Y) (h2 : Y ≤ 9998) (p q d : Int)
    (h : pheno realEph Y M D = some (p, q, d)) : 0 ≤ p ∧ p ≤ 71 ∧ 0 ≤ q ∧ q ≤ 2 ∧ 0 ≤ d ∧ d ≤ 5 ∧ (q < 2 → d ≤ 4) := by
  obtain ⟨g, k, _, _, k15, e, hiff⟩ := pheno_spec realEph realEph_termFacts Y M D hv h1 h2
  obtain ⟨e1, e2, e3⟩ := (hiff p q d).1 (Option.some.inj (e.symm.trans h))
  have : g % 24 < 24 := Nat.mod_lt _ (by decide)
  omega

/-- EXACTLY ONE PENTAD: for every civil date of 2..9998 the code returns a pentad (never refused); it is the one
that fits the latest term g on or before the day, and no other (pentad, position, day) fits. -/
theorem C15_pentad_total (Y M D : Int) (hv : Civil.valid Y M D = true) (h1 : 2 ≤ Y) (h2 : Y ≤ 9998) :
    ∃ g : Nat, IsLatest T (jdn Y M D) g ∧ ∃ p q d, pheno realEph Y M D = some (p, q, d) ∧
      InPentad (g % 24) (jdn Y M D - T g) p q d ∧
      ∀ p' q' d', InPentad (g % 24) (jdn Y M D - T g) p' q' d' → (p', q', d') = (p, q, d) := by
  obtain ⟨g, k, _, a, _, e, hiff⟩ := pheno_spec realEph realEph_termFacts Y M D hv h1 h2
  exact ⟨g, a, _, _, _, e, (hiff _ _ _).1 rfl, fun p' q' d' hp => ((hiff p' q' d').2 hp).symm⟩

/-- THE PACKED DIGIT STRING IS THE CLASSICAL TABLE: for each of the twelve months (Jie index r = 1, 3, …, 23) and
every day index 0 ≤ n < 40, the loop of the code over its six characters of
"93705542220504xx1513904541632524533533105544806564xx7573304542018584xx95" (after the repair of D21) returns what
walking the classical allotment of Spec/Series.lean returns. -/
theorem C15_stem_table (r : Nat) (hr : r % 2 = 1 ∧ r < 24) (n : Int) (hn : 0 ≤ n) (hn2 : n < 40) :
    hideLoop (hideSlice r) n 3 0 0 0 = commandAt (allotment r) 0 n := hideLoop_eq r hr n hn hn2

/-- get_hide_heaven_stem_day (repaired) = the classical table walked from the Jie day on or before the day: q is the
latest term of odd index on or before the day, n the days elapsed since (0..31) — every civil date of 2..9998. -/
theorem C15_stem (Y M D : Int) (hv : Civil.valid Y M D = true) (h1 : 2 ≤ Y) (h2 : Y ≤ 9998) (g : Nat) (k : Int)
    (h : ofDay realEph Y M D = some (g, k)) :
    jieOf g % 2 = 1 ∧ T (jieOf g) ≤ jdn Y M D ∧ jdn Y M D < T (jieOf g + 2) ∧ jdn Y M D - T (jieOf g) ≤ 31 ∧
    hide realEph Y M D = commandAt (allotment (jieOf g % 24)) 0 (jdn Y M D - T (jieOf g)) := by
  obtain ⟨g', k', h', r⟩ := hide_spec realEph realEph_termFacts Y M D hv h1 h2
  obtain ⟨rfl, rfl⟩ := Prod.mk.inj (Option.some.inj (h.symm.trans h'))
  exact ⟨r.1, r.2.1, r.2.2.1, r.2.2.2.1, r.2.2.2.2.1⟩

/-- the reported stem is one of the ten, the type 0 (residual) / 1 (middle) / 2 (main), the day index 0..31 -/
theorem C15_stem_range (Y M D : Int) (hv : Civil.valid Y M D = true) (h1 : 2 ≤ Y) (h2 : Y ≤ 9998) (s ty d : Int)
    (h : hide realEph Y M D = some (s, ty, d)) : 0 ≤ s ∧ s ≤ 9 ∧ 0 ≤ ty ∧ ty ≤ 2 ∧ 0 ≤ d ∧ d ≤ 31 := by
  obtain ⟨g, k, _, b1, b2, b3, b4, e, _, _⟩ := hide_spec realEph realEph_termFacts Y M D hv h1 h2
  have := command_range (jieOf g % 24) (by omega) _ (by omega) s ty d (e.symm.trans h)
  omega

/-- EXACTLY ONE COMMANDING STEM: for every civil date of 2..9998 the (repaired) code returns a stem (never refused);
it is the one in command n days after the latest Jie day q on or before the day according to the classical
allotment of that month, with the day index inside its allotment, and no other (stem, type, day) fits. -/
theorem C15_stem_total (Y M D : Int) (hv : Civil.valid Y M D = true) (h1 : 2 ≤ Y) (h2 : Y ≤ 9998) :
    ∃ q : Nat, q % 2 = 1 ∧ T q ≤ jdn Y M D ∧ jdn Y M D < T (q + 2) ∧ ∃ s ty d, hide realEph Y M D = some (s, ty, d) ∧
      Commands (allotment (q % 24)) (jdn Y M D - T q) s ty d ∧
      ∀ s' ty' d', Commands (allotment (q % 24)) (jdn Y M D - T q) s' ty' d' → (s', ty', d') = (s, ty, d) := by
  obtain ⟨g, k, _, b1, b2, b3, _, e, ⟨⟨s, ty, d⟩, hc⟩, hiff⟩ := hide_spec realEph realEph_termFacts Y M D hv h1 h2
  exact ⟨jieOf g, b1, b2, b3, s, ty, d, e.trans hc, (hiff s ty d).1 hc,
    fun s' ty' d' hp => Option.some.inj (((hiff s' ty' d').2 hp).symm.trans hc)⟩

/-! ### non-vacuity: the hypotheses are met and the series take the expected values on concrete dates of the
current tree (kernel computation through the model over the extracted tables) -/

set_option maxRecDepth 100000 in
/-- 2023-12-26 is day 5 (index 4) of the first Nine; 2024-07-15 opens the Dog days; 2024-08-14 opens the last period
(the middle one had 20 days in 2024); 2024-06-20 is day 10 of the plum rains, 2024-07-06 the leaving day -/
example : nine realEph 2023 (jdn 2023 12 26) = some (some (0, 4)) ∧
    dog realEph 2024 (jdn 2024 7 15) = some (some (0, 0)) ∧ dog realEph 2024 (jdn 2024 8 14) = some (some (2, 0)) ∧
    plum realEph 2024 (jdn 2024 6 20) = some (some (0, 9)) ∧ plum realEph 2024 (jdn 2024 7 6) = some (some (1, 0)) := by
  rw [realEph_eq_quick]; decide +kernel

set_option maxRecDepth 100000 in
/-- 2024-02-11: 7 days into Lichun (term 3 of 2024): pentad 10 (the second of Lichun), day 2 of it; the commanding stem
is Bing (2), middle qi (1), day 0 — the first day of the second allotment of the Yin month (Wu 7, Bing 7, Jia 16):
the D21 witness, which the unrepaired code reported as "Wu, residual, index 7". -/
example : ofDay realEph 2024 2 11 = some (24 * 2023 + 3, 7) ∧ pheno realEph 2024 2 11 = some (10, 1, 2) ∧
    hide realEph 2024 2 11 = some (2, 1, 0) ∧ hide realEph 2024 2 10 = some (4, 0, 6) := by
  rw [realEph_eq_quick]; decide +kernel

example : Civil.valid 2024 2 11 = true ∧ IsDogOf 100 145 127 0 0 ∧ dogAt 100 145 127 = some (0, 0) := by
  refine ⟨by decide, ?_, by decide⟩
  exact (dogAt_iff _ _ _ _ _).1 (by decide)

end Tyme

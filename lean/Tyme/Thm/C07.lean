import Tyme.Lemmas.Cycle
import Tyme.Thm.C08
import Tyme.Lemmas.LunarWalk
import Tyme.Thm.C01
/-!
C07 — day pillar and weekday advance one step per civil day from fixed anchors. Property theorems (`C07_*`).
Model: `SC.dayPillar` (LunarDay::get_sixty_cycle), `SC.ofSolarDay` (SixtyCycleDay::from_solar_day),
`weekOfJdn` (JulianDay::get_week). The lunar route goes through `Lunar.ofSolar`, so the statements about civil
dates hold on the intervals of lunar years where the month table tiles (C02); the D4 windows are known findings.
Totality on the extracted data (`C07_view_total_real`) is in Thm/Total.lean; `hourView_pillars` (day and hour pillar of the
instant view) stands here next to `C07_view`.
-/
namespace Tyme
open Lunar SC

/-- the helper `index_of` is the mathematical modulo for the three sizes the pillars use -/
theorem C07_indexOf (i : Int) : indexOf i 10 = i % 10 ∧ indexOf i 12 = i % 12 ∧ indexOf i 60 = i % 60 :=
  ⟨indexOf_10 i, indexOf_12 i, indexOf_60 i⟩

/-- Stem (n mod 10) and branch (n mod 12) name exactly the pillar n mod 60 — for every integer n. -/
theorem C07_crt (n : Int) : pairIndex (n % 10) (n % 12) = some (n % 60) := pairIndex_crt n

/-- The lunar-day pillar formula: first day number of the month + day − 12, modulo 60 (never refused). -/
theorem C07_dayPillar (first d : Int) : dayPillar first d = some ((first + d - 12) % 60) := dayPillar_eq first d

/-- The pillar of a civil date is (day number + 49) mod 60 — via the lunar route, for every civil date whose
conversion is accepted inside a tiling interval, any ephemeris. -/
theorem C07_pillar (E : Eph) (hl : ∀ y, E.leap y ≤ 12) (a b : Int) (ht : TilesOn E a b) (Y M D : Int)
    (hY : a ≤ Y) (hY2 : Y ≤ b) (hlo : first E ⟨a, 0⟩ ≤ jdn Y M D) (hhi : jdn Y M D < first E ⟨b + 1, 0⟩)
    (r : Month × Int) (h : ofSolar E Y M D = some r) :
    dayPillar (first E r.1) r.2 = some ((jdn Y M D + 49) % 60) := by
  obtain ⟨_, _, _, e, _, _⟩ := ofSolar_spec E hl a b ht Y M D hY hY2 hlo hhi r h
  rw [dayPillar_eq]
  congr 1
  omega

/-- The sexagenary-day view reports the same pillar (it copies the lunar-day pillar). -/
theorem C07_view (E : Eph) (hl : ∀ y, E.leap y ≤ 12) (a b : Int) (ht : TilesOn E a b) (Y M D : Int)
    (hY : a ≤ Y) (hY2 : Y ≤ b) (hlo : first E ⟨a, 0⟩ ≤ jdn Y M D) (hhi : jdn Y M D < first E ⟨b + 1, 0⟩)
    (v : DayView) (h : ofSolarDay E Y M D = some v) : v.day = (jdn Y M D + 49) % 60 := by
  obtain ⟨x, k, _, _, hr, _, _, _, hd⟩ := ofSolarDay_inv E Y M D v h
  obtain ⟨_, _, _, e, _, _⟩ := ofSolar_spec E hl a b ht Y M D hY hY2 hlo hhi (x, k) hr
  dsimp only at e
  rw [hd]; omega

/-- the same at an instant, any ephemeris: inside a tiling interval the instant view of a civil date carries the day pillar
(day number + 49) mod 60 — advanced by one from 23:00 on — and the hour branch is the double-hour number of the clock hour -/
theorem hourView_pillars (E : Eph) (hl : ∀ y, E.leap y ≤ 12) (a b : Int) (ht : TilesOn E a b) (y m d h mi s : Int)
    (hY : a ≤ y) (hY2 : y ≤ b) (hlo : first E ⟨a, 0⟩ ≤ jdn y m d) (hhi : jdn y m d < first E ⟨b + 1, 0⟩)
    (w : HourView) (hw : ofSolarTime E y m d h mi s = some w) :
    w.day = (if h = 23 then (jdn y m d + 50) % 60 else (jdn y m d + 49) % 60) ∧ w.hour % 12 = ((h + 1) / 2) % 12 := by
  obtain ⟨x, k, _, r1, _, _, _, hd, hh⟩ := ofSolarTime_inv E y m d h mi s w hw
  obtain ⟨_, _, _, e, _, _⟩ := ofSolar_spec E hl a b ht y m d hY hY2 hlo hhi (x, k) r1
  dsimp only at e
  exact ⟨by rw [hd]; split <;> omega, by rw [hh]; omega⟩

/-- weekday = (day number + 1) mod 7 (7 divides 7,000,000). -/
theorem C07_week (j : Int) : weekOfJdn j = (j + 1) % 7 := by unfold weekOfJdn; omega

/-- one step per civil day, no break anywhere: the successor day number has the successor pillar and weekday. -/
theorem C07_step (j : Int) :
    ((j + 1) + 49) % 60 = ((j + 49) % 60 + 1) % 60 ∧ weekOfJdn (j + 1) = (weekOfJdn j + 1) % 7 := by
  unfold weekOfJdn; omega

/-- …in particular across the 1582 cut-over, month ends and year ends (`Civil.next` is +1 on day numbers, C01). -/
theorem C07_step_civil (y m d : Int) (hv : Civil.valid y m d = true) (hne : ¬ (y = 9999 ∧ m = 12 ∧ d = 31)) :
    (jdnT (Civil.next y m d) + 49) % 60 = ((jdn y m d + 49) % 60 + 1) % 60 ∧
    weekOfJdn (jdnT (Civil.next y m d)) = (weekOfJdn (jdn y m d) + 1) % 7 := by
  rw [C01_jdn_next y m d hv hne]
  exact C07_step _

/-- anchors: 2000-01-01 was a Saturday (6) with pillar Wu-Wu (54). -/
example : weekOfJdn (jdn 2000 1 1) = 6 ∧ (jdn 2000 1 1 + 49) % 60 = 54 := by decide

end Tyme

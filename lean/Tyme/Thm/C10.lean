import Tyme.Lemmas.Cache
import Tyme.Model.ObjMemo
import Tyme.Model.ProviderLock
/-!
C10 — answers do not depend on call history, thread interleaving or earlier refusals. Property theorems (`C10_*`).
Model: `Cache.step` / `Cache.run` (one `LunarMonth::from_ym` per step: look up the memo, else construct and
insert; a refused construction leaves the memo untouched — D2), `Cache.mstep` (the two critical sections as
separate atomic steps, for interleavings), `Cache.key` = format!("{}_{}", year, month) as bytes (D1).
`pure` is ANY function (the uncached constructor); nothing below depends on what it computes.
What the model cannot exhibit: the Rust memory model, lock poisoning mechanics, lazy_static initialisation —
those are stress-tested only (16 threads × overlapping, colliding and invalid queries).
-/
namespace Tyme
open Cache

/-- the delimited decimal key identifies the request: no two (year, month) pairs share a key — all integers -/
theorem C10_key_injective (y m y' m' : Int) (h : key y m = key y' m') : y = y' ∧ m = m' := by
  unfold key at h
  have := split_at_delim 95 _ _ _ _ (render_no_delim y) (render_no_delim y') h
  exact ⟨render_inj _ _ this.1, render_inj _ _ this.2⟩

/-- …whereas the key used before the repair (no delimiter) collides: (1,12) and (11,2) both render "112" -/
theorem C10_old_key_collides : keyOld 1 12 = keyOld 11 2 ∧ ((1 : Int), (12 : Int)) ≠ (11, 2) := by decide

/-- a hit returns the pure answer of the request whose key was looked up -/
theorem inv_hit {pure : Int → Int → Option Rec} {c : State} (hi : Inv key pure c) {y m : Int} {v : Rec}
    (h : lookup c (key y m) = some v) : pure y m = some v := by
  obtain ⟨y', m', hk, hp⟩ := hi _ _ h
  obtain ⟨e1, e2⟩ := C10_key_injective _ _ _ _ hk
  rw [← e1, ← e2]; exact hp

/-- one step: under the invariant, the answer IS the pure answer (hit or miss) -/
theorem C10_step_answer (pure : Int → Int → Option Rec) (c : State) (q : Int × Int) (hi : Inv key pure c) :
    (step key pure c q).2 = pure q.1 q.2 := by
  unfold step
  split
  · rename_i v hv
    exact (inv_hit hi hv).symm
  · split
    · rename_i h; rw [h]
    · rename_i v h; rw [h]

/-- ANY HISTORY: after any sequence of earlier requests (valid or refused, in any order, colliding digits or
not), every answer is the pure function of its own arguments. -/
theorem C10_history (pure : Int → Int → Option Rec) : ∀ (qs : List (Int × Int)) (c : State), Inv key pure c →
    (run key pure c qs).2 = qs.map (fun q => pure q.1 q.2) ∧ Inv key pure (run key pure c qs).1 := by
  intro qs
  induction qs with
  | nil => intro c hi; exact ⟨rfl, hi⟩
  | cons q qs ih =>
    intro c hi
    simp only [run, List.map_cons]
    have h1 := C10_step_answer pure c q hi
    have h2 := inv_step key pure c q hi
    obtain ⟨i1, i2⟩ := ih _ h2
    exact ⟨by rw [h1, i1], i2⟩

/-- from a fresh process (empty memo) in particular -/
theorem C10_fresh (pure : Int → Int → Option Rec) (qs : List (Int × Int)) :
    (run key pure [] qs).2 = qs.map (fun q => pure q.1 q.2) := (C10_history pure qs [] (inv_nil key pure)).1

/-- a refused request changes nothing: the memo is exactly as before -/
theorem C10_refusal_harmless (pure : Int → Int → Option Rec) (c : State) (q : Int × Int) (hi : Inv key pure c)
    (hr : (step key pure c q).2 = none) : (step key pure c q).1 = c := by
  have hp : pure q.1 q.2 = none := by rw [← C10_step_answer pure c q hi]; exact hr
  unfold step
  split
  · rfl
  · simp [hp]

/-- the same query before and after any history (including injected refusals) gives the same answer -/
theorem C10_history_independent (pure : Int → Int → Option Rec) (qs : List (Int × Int)) (q : Int × Int) :
    (step key pure (run key pure [] qs).1 q).2 = (step key pure [] q).2 := by
  rw [C10_step_answer pure _ q (C10_history pure qs [] (inv_nil key pure)).2,
      C10_step_answer pure [] q (inv_nil key pure)]

/-- SCHEDULES (model level): for every interleaving of the critical sections of any number of concurrent
callers — any list of `look` / `ins` micro-steps whatsoever — the invariant is preserved; that every `look` that
hits then returns the pure answer of its own request is `C10_look_answer`. -/
theorem C10_interleave (pure : Int → Int → Option Rec) : ∀ (ops : List MOp) (c : State), Inv key pure c →
    Inv key pure (ops.foldl (fun s o => (mstep key pure s o).1) c) := by
  intro ops
  induction ops with
  | nil => intro c hi; exact hi
  | cons o os ih =>
    intro c hi
    simp only [List.foldl_cons]
    exact ih _ (inv_mstep key pure c o hi)

theorem C10_look_answer (pure : Int → Int → Option Rec) (c : State) (hi : Inv key pure c) (y m : Int) (v : Rec)
    (h : (mstep key pure c (.look y m)).2 = some v) : pure y m = some v :=
  inv_hit hi h

/-- non-vacuity: a concrete history with a collision candidate and a refusal -/
example : (run key (fun y m => if m = 13 then none else some ⟨y, m, 30, 0, 0⟩) [] [(1, 12), (11, 2), (2024, 13), (1, 12)]).2 =
    [some ⟨1, 12, 30, 0, 0⟩, some ⟨11, 2, 30, 0, 0⟩, none, some ⟨1, 12, 30, 0, 0⟩] := by decide

end Tyme

/-! ### per-object lazy memos of LunarDay / LunarHour (Model/ObjMemo.lean) -/
namespace Tyme
open ObjMemo

theorem C10_obj_inv_step {α β : Type} (view : Nat → α → β) (stepArgs : α → Int → α) (o : Obj α β) (op : Op)
    (hi : Inv view o) :
    Inv view (step view stepArgs o op).1 ∧ (step view stepArgs o op).2 = (pureStep view stepArgs o.args op).2 ∧
    (step view stepArgs o op).1.args = (pureStep view stepArgs o.args op).1 := by
  cases op with
  | get i =>
    simp only [step, pureStep, mget]
    cases hm : o.memo i with
    | some v =>
      have := hi i v hm
      simp only [this]
      exact ⟨hi, trivial, trivial⟩
    | none =>
      refine ⟨?_, rfl, rfl⟩
      intro j v hj
      simp only at hj
      by_cases hji : j = i
      · simp only [hji, if_true, Option.some.injEq] at hj; rw [← hj, hji]
      · simp only [hji, if_false] at hj; exact hi j v hj
  | clone => exact ⟨hi, rfl, rfl⟩
  | next n =>
    simp only [step, pureStep, mnext]
    by_cases h0 : n = 0
    · simp only [h0, if_true]; exact ⟨hi, trivial, trivial⟩
    · simp only [h0, if_false]
      refine ⟨?_, rfl, rfl⟩
      intro j v hj
      simp [fresh] at hj

/-- HISTORY INDEPENDENCE of the per-object memos: along ANY history of memoised getters, clones and steps on one value,
every observable output equals that of the memo-free computation on the numbers alone. -/
theorem C10_obj_history {α β : Type} (view : Nat → α → β) (stepArgs : α → Int → α) :
    ∀ (ops : List Op) (o : Obj α β), Inv view o →
      (run view stepArgs o ops).2 = (pureRun view stepArgs o.args ops).2 ∧ Inv view (run view stepArgs o ops).1 := by
  intro ops
  induction ops with
  | nil => intro o hi; exact ⟨rfl, hi⟩
  | cons op ops ih =>
    intro o hi
    obtain ⟨i1, i2, i3⟩ := C10_obj_inv_step view stepArgs o op hi
    obtain ⟨j1, j2⟩ := ih _ i1
    simp only [run, pureRun]
    rw [i3] at j1
    exact ⟨by rw [i2, j1], j2⟩

/-- a freshly constructed value satisfies the invariant, so the theorem applies to every value an API user can hold -/
theorem C10_obj_fresh {α β : Type} (view : Nat → α → β) (stepArgs : α → Int → α) (a : α) (ops : List Op) :
    (run view stepArgs (fresh a : Obj α β) ops).2 = (pureRun view stepArgs a ops).2 :=
  (C10_obj_history view stepArgs ops (fresh a) (by intro i v h; simp [fresh] at h)).1

/-- what the invariant excludes: a step that keeps the filled slots (`Self { hour, ..self.clone() }`) answers with the
old value's view — a concrete two-operation history on which it differs from the memo-free computation -/
example : let view : Nat → Int → Int := fun _ a => a
    let o : Obj Int Int := (mget view (fresh 5) 0).2
    let bad : Obj Int Int := { o with args := o.args + 1 }   -- stepped numbers, slots carried over
    (mget view bad 0).1 = 5 ∧ view 0 bad.args = 6 := by decide

end Tyme

/-! ### the process-wide strategy slots behind a mutex (Model/ProviderLock.lean) -/
namespace Tyme
open ProviderLock

/-- the poison-free reference: only the strategy in force matters -/
def pureAnswers {ρ α : Type} : (ρ → Option α) → List (Op ρ α) → List (Option α)
  | _, [] => []
  | f, .call r :: ops => f r :: pureAnswers f ops
  | _, .set g :: ops => none :: pureAnswers g ops

/-- HISTORY INDEPENDENCE of the strategy slots (code after D24): along any history of requests (refused ones included) and
strategy changes, every answer is the answer of the strategy in force at that point — the poison flag never matters. -/
theorem C10_provider_history {ρ α : Type} : ∀ (ops : List (Op ρ α)) (s : Slot ρ α),
    (run stepRecover s ops).2 = pureAnswers s.strategy ops := by
  intro ops
  induction ops with
  | nil => intro s; rfl
  | cons op ops ih =>
    intro s
    cases op with
    | call r =>
      simp only [run, stepRecover, pureAnswers]
      cases h : s.strategy r with
      | some a => simp only []; rw [ih]
      | none => simp only []; rw [ih]
    | set g =>
      simp only [run, stepRecover, pureAnswers]
      rw [ih]

/-- REFUSAL INDEPENDENCE of the strategy slots (code after D24): after ANY history of requests — refused ones included —
and strategy changes, a request is answered by the strategy set last, exactly as in a process that never saw a refusal. -/
theorem C10_provider_recover {ρ α : Type} (ops : List (Op ρ α)) (s : Slot ρ α) (r : ρ) :
    (stepRecover (run stepRecover s ops).1 (.call r)).2 = (run stepRecover s ops).1.strategy r := by
  simp only [stepRecover]
  cases h : (run stepRecover s ops).1.strategy r <;> rfl

/-- …whereas with `lock().unwrap()` one refused request makes every later request fail: the pre-repair behaviour (D24) -/
theorem C10_provider_unwrap_poisons {ρ α : Type} (s : Slot ρ α) (bad good : ρ) (hb : s.strategy bad = none)
    (a : α) (hg : s.strategy good = some a) (hp : s.poisoned = false) :
    (run stepUnwrap s [.call bad, .call good]).2 = [none, none] ∧
    (run stepRecover s [.call bad, .call good]).2 = [none, some a] := by
  simp [run, stepUnwrap, stepRecover, hb, hg, hp]

end Tyme

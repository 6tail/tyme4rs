import Tyme.Thm.C15
/-!
C15, second file — TOTALITY of get_dog_day / get_plum_rain_day.

`C15_dog`, `C15_dog_iff`, `C15_plum`, `C15_plum_iff` (Thm/C15.lean) speak about calls that are *not refused*. The only
refusal the models `Series.dog` / `Series.plum` can make on a civil date of the years 2..9998 is that of
`SolarDay::get_lunar_day` (`Lunar.ofSolar`, a guess-and-walk search run with 40 rounds of fuel) on the ANCHOR days —
the Grain-in-Ear, summer-solstice and Slight-Heat days of the civil year — whose sexagenary pillar the code reads
through the lunar calendar. That conversion DOES return on every anchor day (`C15_anchor_total_real`,
`C15_anchor_total_all` in Thm/C15.lean), so both series are never refused and the characterisations hold with no "if the
call returns" hypothesis.

* `C15_dog_total_real`, `C15_plum_total_real`: every civil date of the years 2..7, 9..22, 25..235, 237..238, 240..9998 —
  all years but the five D4 junction years 8, 23, 24, 236, 239; they rest on the tiling theorem (C02), the totality of
  the month walk and the window facts of C13 (where Lichun, the winter solstice and the lunar new year lie in the civil
  year) — no evaluation beyond the table facts of C02 and C13.
* `C15_dog_total_all`, `C15_plum_total_all`, `C15_dog_none_real`, `C15_plum_none_real`: every civil date of 2..9998, the
  five junction years included by the kernel computation of their 15 anchor days (`c15_bad_year_pillars`).
-/
namespace Tyme
open Term SeriesSpec Series Lunar

local notation "T" => Eph.termDay realEph

/-- DOG DAYS, TOTAL: for every civil date of every year but the five junction years get_dog_day RETURNS (it is never
refused); what it returns is the spec function of the latest summer-solstice day on or before the day and the
Start-of-Autumn day that follows it; and it reports day i of period k exactly when the day is that day of the Dog days
counted from SOME year's summer solstice (third Geng day on or after it; ten days, then ten or twenty according to
whether the fifth Geng day precedes the Start-of-Autumn day, then ten). -/
theorem C15_dog_total_real (Y M D : Int) (hv : Civil.valid Y M D = true) (hy : C15GoodYear Y) :
    ∃ r, dog realEph Y (jdn Y M D) = some r ∧
      (∃ g : Nat, 1 ≤ g ∧ g + 24 ≤ 239977 ∧ IsLatestKind T 12 (jdn Y M D) g ∧ r = dogAt (T g) (T (g + 3)) (jdn Y M D)) ∧
      ∀ k i : Int, r = some (k, i) ↔
        ∃ g : Nat, 1 ≤ g ∧ g + 3 ≤ 239977 ∧ g % 24 = 12 ∧ IsDogOf (T g) (T (g + 3)) (jdn Y M D) k i := by
  have h12 : 2 ≤ Y ∧ Y ≤ 9998 := by unfold C15GoodYear at hy; omega
  obtain ⟨g, b1, b2, hk, e, hiff⟩ := dog_spec realEph realEph_termFacts Y M D hv h12.1 h12.2 (C15_anchor_total_real Y hy 12 (by omega))
  exact ⟨_, e, ⟨g, b1, b2, hk, rfl⟩, hiff⟩

/-- …every civil date of 2..9998, the junction years by the computed anchor days -/
theorem C15_dog_total_all (Y M D : Int) (hv : Civil.valid Y M D = true) (h1 : 2 ≤ Y) (h2 : Y ≤ 9998) :
    ∃ r, dog realEph Y (jdn Y M D) = some r ∧
      (∃ g : Nat, 1 ≤ g ∧ g + 24 ≤ 239977 ∧ IsLatestKind T 12 (jdn Y M D) g ∧ r = dogAt (T g) (T (g + 3)) (jdn Y M D)) ∧
      ∀ k i : Int, r = some (k, i) ↔
        ∃ g : Nat, 1 ≤ g ∧ g + 3 ≤ 239977 ∧ g % 24 = 12 ∧ IsDogOf (T g) (T (g + 3)) (jdn Y M D) k i := by
  obtain ⟨g, b1, b2, hk, e, hiff⟩ := dog_spec realEph realEph_termFacts Y M D hv h1 h2 (C15_anchor_total_all Y h1 h2 12 (by omega))
  exact ⟨_, e, ⟨g, b1, b2, hk, rfl⟩, hiff⟩

/-- "…and no other day is a Dog day": the code answers "not a Dog day" exactly for the days that are no day of the
Dog days counted from any year's summer solstice — every civil date of 2..9998. -/
theorem C15_dog_none_real (Y M D : Int) (hv : Civil.valid Y M D = true) (h1 : 2 ≤ Y) (h2 : Y ≤ 9998) :
    dog realEph Y (jdn Y M D) = some none ↔
      ¬ ∃ (g : Nat) (k i : Int), 1 ≤ g ∧ g + 3 ≤ 239977 ∧ g % 24 = 12 ∧ IsDogOf (T g) (T (g + 3)) (jdn Y M D) k i := by
  obtain ⟨r, hr, _, hiff⟩ := C15_dog_total_all Y M D hv h1 h2
  rw [hr, Option.some.injEq]; exact eq_none_iff_of_some_iff hiff

/-- PLUM RAINS, TOTAL: for every civil date of every year but the five junction years get_plum_rain_day RETURNS (it is
never refused); what it returns is the spec function of the latest Grain-in-Ear day on or before the day and the
Slight-Heat day two terms later; and it reports (k, i) exactly when the day is that day of the Plum rains counted from
SOME year's Grain-in-Ear day (first Bing day on or after it .. first Wei day on or after Slight Heat). -/
theorem C15_plum_total_real (Y M D : Int) (hv : Civil.valid Y M D = true) (hy : C15GoodYear Y) :
    ∃ r, plum realEph Y (jdn Y M D) = some r ∧
      (∃ g : Nat, 1 ≤ g ∧ g + 24 ≤ 239977 ∧ IsLatestKind T 11 (jdn Y M D) g ∧ r = plumAt (T g) (T (g + 2)) (jdn Y M D)) ∧
      ∀ k i : Int, r = some (k, i) ↔
        ∃ g : Nat, 1 ≤ g ∧ g + 2 ≤ 239977 ∧ g % 24 = 11 ∧ IsPlumOf (T g) (T (g + 2)) (jdn Y M D) k i := by
  have h12 : 2 ≤ Y ∧ Y ≤ 9998 := by unfold C15GoodYear at hy; omega
  obtain ⟨g, b1, b2, hk, e, hiff⟩ := plum_spec realEph realEph_termFacts Y M D hv h12.1 h12.2 (C15_anchor_total_real Y hy 11 (by omega))
    (C15_anchor_total_real Y hy 13 (by omega))
  exact ⟨_, e, ⟨g, b1, b2, hk, rfl⟩, hiff⟩

/-- …every civil date of 2..9998, the junction years by the computed anchor days -/
theorem C15_plum_total_all (Y M D : Int) (hv : Civil.valid Y M D = true) (h1 : 2 ≤ Y) (h2 : Y ≤ 9998) :
    ∃ r, plum realEph Y (jdn Y M D) = some r ∧
      (∃ g : Nat, 1 ≤ g ∧ g + 24 ≤ 239977 ∧ IsLatestKind T 11 (jdn Y M D) g ∧ r = plumAt (T g) (T (g + 2)) (jdn Y M D)) ∧
      ∀ k i : Int, r = some (k, i) ↔
        ∃ g : Nat, 1 ≤ g ∧ g + 2 ≤ 239977 ∧ g % 24 = 11 ∧ IsPlumOf (T g) (T (g + 2)) (jdn Y M D) k i := by
  obtain ⟨g, b1, b2, hk, e, hiff⟩ := plum_spec realEph realEph_termFacts Y M D hv h1 h2 (C15_anchor_total_all Y h1 h2 11 (by omega))
    (C15_anchor_total_all Y h1 h2 13 (by omega))
  exact ⟨_, e, ⟨g, b1, b2, hk, rfl⟩, hiff⟩

/-- "…and no other day is a Plum-rain day" — every civil date of 2..9998 -/
theorem C15_plum_none_real (Y M D : Int) (hv : Civil.valid Y M D = true) (h1 : 2 ≤ Y) (h2 : Y ≤ 9998) :
    plum realEph Y (jdn Y M D) = some none ↔
      ¬ ∃ (g : Nat) (k i : Int), 1 ≤ g ∧ g + 2 ≤ 239977 ∧ g % 24 = 11 ∧ IsPlumOf (T g) (T (g + 2)) (jdn Y M D) k i := by
  obtain ⟨r, hr, _, hiff⟩ := C15_plum_total_all Y M D hv h1 h2
  rw [hr, Option.some.injEq]; exact eq_none_iff_of_some_iff hiff

/-- the hypotheses are met by a concrete date, and by the first and last year of every range -/
example : Civil.valid 2024 7 15 = true ∧ C15GoodYear 2024 ∧ C15GoodYear 2 ∧ C15GoodYear 7 ∧ C15GoodYear 9 ∧ C15GoodYear 22 ∧
    C15GoodYear 25 ∧ C15GoodYear 235 ∧ C15GoodYear 237 ∧ C15GoodYear 238 ∧ C15GoodYear 240 ∧ C15GoodYear 9998 ∧
    ¬ C15GoodYear 8 ∧ ¬ C15GoodYear 239 := by
  refine ⟨by decide, ?_⟩
  simp only [C15_goodYear_iff]
  omega

end Tyme


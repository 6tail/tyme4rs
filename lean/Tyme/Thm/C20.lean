import Tyme.Lemmas.FestNext
import Tyme.Lemmas.FestSolar
import Tyme.Lemmas.FestLunar
import Tyme.Facts.C20
import Tyme.Facts.C20b
/-!
C20 — festival and legal-holiday look-ups are consistent in both directions.
Property theorems only; every obligation is named `C20_*`.

Data: the three strings `SOLAR_FESTIVAL_DATA`, `LUNAR_FESTIVAL_DATA`, `LEGAL_HOLIDAY_DATA` and the name arrays are
dumped from the crate on every run into `Tyme/Gen/C20.lean` (bytes); the table facts `C20_tf_*` (Tyme/Facts/C20*.lean)
are closed computations on them decided by the kernel — complete enumerations (all 821 records, all 10,673 offsets,
every month × day), not samples.
Model (`Tyme/Model/Festival.lean`): the regex look-ups as leftmost unanchored byte scans, `from_ymd`, `from_index`,
`next`; tied to src/tyme/{festival,holiday}.rs by the correspondence run.
Spec (`Tyme/Spec/Festival.lean`, `FestivalLunar.lean`): the strings cut into records by position, look-ups as list searches.
Lunar festivals are stated over an ABSTRACT calendar `Cal` (lunar dates and solar terms belong to other properties);
`LunarFestival::from_ymd` is modelled with the repair fixes/C20-term-festival.diff (D13).
-/
namespace Tyme
open Fest FestSpec Gen.C20

/-- model = record reading on every real civil date: the festival found is the record with that month-day whose
founding year is ≤ the year; nothing otherwise. -/
theorem C20_solar_fromYmd (y m d : Int) (hv : Civil.valid y m d = true) :
    solarFromYmd solarData y m d = match solarOn (solarRecs solarData) y m d with
      | some r => .found ⟨r.idx, y, m, d, r.start⟩
      | none => .absent :=
  solarFromYmd_spec C20_tf_solar_wf hv

/-- A civil festival is found on exactly its month-day in every year from its founding year on and never before
(all integer arguments; years after 9999 have no civil date and are refused, never answered). -/
theorem C20_solar_found_iff (y m d : Int) (f : SolarFest) :
    solarFromYmd solarData y m d = .found f ↔
      ∃ r ∈ solarRecs solarData, (r.m : Int) = m ∧ (r.d : Int) = d ∧ (r.start : Int) ≤ y ∧ y ≤ 9999 ∧
        f = ⟨r.idx, y, m, d, r.start⟩ :=
  solarFromYmd_found_iff C20_tf_solar_wf y m d f

/-- never before the founding year -/
theorem C20_solar_not_before (y m d : Int) (r : SolarRec) (hr : r ∈ solarRecs solarData)
    (hm : (r.m : Int) = m) (hd : (r.d : Int) = d) (hy : y < r.start) (f : SolarFest) :
    solarFromYmd solarData y m d ≠ .found f := by
  intro h
  obtain ⟨r', hr', hm', hd', hs', _, _⟩ := (C20_solar_found_iff y m d f).1 h
  have := solar_md_unique C20_tf_solar_wf hr hr' (by omega) (by omega)
  subst this; omega

/-- by index: the record with that index from its founding year on (refused beyond year 9999: no such civil date) -/
theorem C20_solar_fromIndex (y i : Int) (hi : 0 ≤ i) :
    solarFromIndex solarNames.length solarData y i = match solarAt (solarRecs solarData) y i with
      | some r => if y ≤ 9999 then .found ⟨r.idx, y, r.m, r.d, r.start⟩ else .refused
      | none => .absent :=
  solarFromIndex_spec C20_tf_solar_wf y hi

/-- both directions: the festival found by index is the one found on its own day -/
theorem C20_solar_roundtrip (y i : Int) (f : SolarFest)
    (h : solarFromIndex solarNames.length solarData y i = .found f) :
    solarFromYmd solarData f.y f.m f.d = .found f ∧ (f.idx : Int) = i :=
  solar_roundtrip C20_tf_solar_wf h

/-- stepping a festival by `n` yields the festival `n` places further along the list, carrying into later or earlier
years: the position `size·year + index` is shifted by `n` (floor division; every integer `n`). -/
theorem C20_solar_next (f : SolarFest) (n : Int) :
    solarNext solarNames.length solarData f n =
      solarFromIndex solarNames.length solarData
        ((f.y * solarNames.length + f.idx + n) / solarNames.length)
        ((f.y * solarNames.length + f.idx + n) % solarNames.length) :=
  solarNext_spec C20_tf_solar_wf f n

/-- stepping is additive: `next a` then `next b` is `next (a + b)` -/
theorem C20_solar_next_add (f g : SolarFest) (a b : Int)
    (hg : solarNext solarNames.length solarData f a = .found g) :
    solarNext solarNames.length solarData g b = solarNext solarNames.length solarData f (a + b) :=
  solarNext_add C20_tf_solar_wf b hg

/-- stepping by 0 returns the festival itself -/
theorem C20_solar_next_zero (y i : Int) (f : SolarFest)
    (hf : solarFromIndex solarNames.length solarData y i = .found f) :
    solarNext solarNames.length solarData f 0 = .found f :=
  solarNext_zero C20_tf_solar_wf hf

/-- non-vacuity (data-independent): there are records, so the right-hand side of `C20_solar_found_iff` is inhabited:
the first record is found on its own month-day in its founding year -/
example : ∃ r ∈ solarRecs solarData, ∃ f, solarFromYmd solarData r.start r.m r.d = .found f := by
  have hne : solarRecs solarData ≠ [] := by decide +kernel
  obtain ⟨r, t, hr⟩ := List.exists_cons_of_ne_nil hne
  have hmem : r ∈ solarRecs solarData := by rw [hr]; exact List.mem_cons_self
  have F := solar_rec_facts C20_tf_solar_wf hmem
  exact ⟨r, hmem, _, (C20_solar_found_iff _ _ _ _).2 ⟨r, hmem, rfl, rfl, Int.le_refl _, by omega, rfl⟩⟩

/-- by index: the record at that position, read over the calendar `C` (all years, all indices) -/
theorem C20_lunar_fromIndex (C : Cal) (y i : Int) :
    lunarFromIndex C lunarNames.length lunarData y i = lunarAt C (lunarRecs lunarData) y i :=
  lunarFromIndex_spec C20_tf_lunar_wf C y i

/-- by date (repaired code): fixed-date records, then every term record, then New Year's Eve -/
theorem C20_lunar_fromYmd (C : Cal) (y m d : Int) (hm1 : -12 ≤ m) (hm2 : m ≤ 12) (hd1 : 0 ≤ d) (hd2 : d ≤ 31) :
    lunarFromYmd C lunarData y m d = lunarOn C (lunarRecs lunarData) y m d :=
  lunarFromYmd_spec C20_tf_lunar_wf C y hm1 hm2 hd1 hd2

/-- A lunar festival found by index falls on a day whose own look-up returns it, or the earlier-listed festival when
two share the day — for EVERY calendar `C`, year and index, under the stated hypotheses `BackHyp` about `C`
(the day is an accepted lunar day of the year asked for; no later-listed fixed-date festival on it; the year's terms
can be computed; the day after the eve is a new year's day). `g` is the look-up answer: same day, `g.idx ≤ i`, and `g`
is exactly festival number `g.idx` of that lunar year. -/
theorem C20_lunar_back (C : Cal) (y : Int) (i : Nat) (f : LunarFest)
    (hf : lunarFromIndex C lunarNames.length lunarData y i = .found f)
    (hm1 : -12 ≤ f.m) (hm2 : f.m ≤ 12) (hd1 : 0 ≤ f.d) (hd2 : f.d ≤ 31)
    (H : BackHyp C (lunarRecs lunarData) y i f) :
    ∃ g, lunarFromYmd C lunarData f.y f.m f.d = .found g ∧ g.idx ≤ i ∧ g.y = f.y ∧ g.m = f.m ∧ g.d = f.d ∧
      lunarFromIndex C lunarNames.length lunarData f.y g.idx = .found g := by
  rw [C20_lunar_fromIndex] at hf
  obtain ⟨g, h1, h2, h3, h4, h5, h6⟩ := lunar_back_spec C C20_tf_lunar_wf.struct y i f hf H
  exact ⟨g, by rw [C20_lunar_fromYmd C f.y f.m f.d hm1 hm2 hd1 hd2]; exact h1, h2, h3, h4, h5,
    by rw [C20_lunar_fromIndex]; exact h6⟩

/-- The full-strength statement (no hypotheses on the calendar). It is NOT claimed: it fails for calendars in which the
winter solstice falls on lunar 12-08 (the library's calendar does so in AD 19) or in which the day after an eve is not a
new year's day (AD 8, 23, 24, 239) — `Tyme/FindingsC20.lean` exhibits such a calendar in the model, the S stream
`c20.lunar.law` reproduces the listed (year, index) pairs on the implementation (known_findings.json, D18).
`C20_lunar_back` is this statement restricted by `BackHyp`. -/
def C20_lunar_back_full : Prop :=
  ∀ (C : Cal) (y : Int) (i : Nat) (f : LunarFest),
    lunarFromIndex C lunarNames.length lunarData y i = .found f →
    ∃ g, lunarFromYmd C lunarData f.y f.m f.d = .found g ∧ g.idx ≤ i ∧ g.y = f.y ∧ g.m = f.m ∧ g.d = f.d

/-- the eve hypothesis of `BackHyp` follows from the solar round trip of the two days around the new year -/
theorem C20_lunar_eve_next (C : Cal) (y j : Int) (l : Int × Int × Int)
    (h1 : C.toSolar (y + 1) 1 1 = some j) (h2 : C.toLunar (j - 1) = some l)
    (h3 : C.toSolar l.1 l.2.1 l.2.2 = some (j - 1)) (h4 : C.toLunar j = some (y + 1, 1, 1)) :
    C.step (y + 1, 1, 1) (-1) = some l ∧ C.step (l.1, l.2.1, l.2.2) 1 = some (y + 1, 1, 1) := by
  unfold Cal.step
  simp only [h1, h3]
  have e1 : j + -1 = j - 1 := by omega
  have e2 : j - 1 + 1 = j := by omega
  refine ⟨?_, ?_⟩
  · rw [if_neg (by decide), e1, h2]
  · rw [if_neg (by decide), e2, h4]

/-- The eve record of year `y` evaluates to the lunar date the calendar gives to the civil day before the next new year's
day (`j - 1`): day `len` of month `mL` of year `y`. That `len` is 29 or 30 is a hypothesis, handed through unchanged. -/
theorem C20_lunar_eve_last_day (C : Cal) (y j mL len : Int) (hlen : len = 29 ∨ len = 30)
    (hv : C.valid (y + 1) 1 1 = true) (h1 : C.toSolar (y + 1) 1 1 = some j)
    (h3 : C.toLunar (j - 1) = some (y, mL, len)) (idx : Nat) :
    lunarRecEval C y (.eve idx) = .found ⟨idx, 2, y, mL, len, -1⟩ ∧ (len = 29 ∨ len = 30) := by
  refine ⟨?_, hlen⟩
  unfold lunarRecEval Cal.step
  simp only [hv, if_true, h1]
  have e1 : j + -1 = j - 1 := by omega
  rw [if_neg (by decide), e1, h3]

/-- stepping a lunar festival by `n`: the festival `n` places further along the list, carrying into later or earlier
lunar years (shift on `size·year + index`; stated for a non-negative position `size·year + index + n`: the model's carry
truncates, so below 0 it is not this shift) -/
theorem C20_lunar_next (C : Cal) (f : LunarFest) (n : Int) (h : 0 ≤ f.y * lunarNames.length + f.idx + n) :
    lunarNext C lunarNames.length lunarData f n =
      lunarFromIndex C lunarNames.length lunarData
        ((f.y * lunarNames.length + f.idx + n) / lunarNames.length)
        ((f.y * lunarNames.length + f.idx + n) % lunarNames.length) := by
  show lunarFromIndex C _ _ (carryT lunarNames.length f.y (f.idx + n)) (Tyme.indexOf (f.idx + n) lunarNames.length) = _
  rw [indexOf_add_eq _ (by decide) f.y, carryT, Int.tdiv_eq_ediv_of_nonneg (by omega), ← Int.add_assoc]
  rfl

/-- the table is well formed: whole 13-byte records; every record a real civil date with a known name index;
dates strictly increasing; the record shape matches at NO misaligned offset; the table is its year blocks in year
order, no year between the first and the last is empty, each record is the first of its block with its date prefix -/
theorem C20_holiday_wf : HolWF holidayNames.length holidayData := C20_tf_holiday.1

/-- Every record of the table is a real date -/
theorem C20_holiday_real_dates : ∀ r ∈ holRecs holidayData, Civil.valid r.y r.m r.d = true ∧ r.idx < holidayNames.length :=
  fun _ hr => holRecs_valid C20_holiday_wf hr

/-- no offset other than the multiples of 13 matches the record shape `\d{8}[0-1][0-8][+|-]\d{2}` (which every
look-up pattern refines): a look-up can only ever land on an aligned record -/
theorem C20_holiday_no_misaligned (o : Nat) :
    okAll shape (holidayData.drop o) = true ↔ (o < holidayData.length ∧ o % 13 = 0) := by
  constructor
  · exact wf_shape_offset C20_holiday_wf
  · rintro ⟨h1, h2⟩; exact (wf_aligned C20_holiday_wf h1).2 h2

/-- For every record `k`, the date pattern built from its own date matches at its own offset `13k` and at NO other
offset of the 10,673 (aligned or not): the leftmost match is the record itself. -/
theorem C20_holiday_own_offset (k : Nat) (r : HolRec) (hr : (holRecs holidayData)[k]? = some r) (o : Nat) :
    (∃ mt, (holYmdRx r.y r.m r.d).matchHere (holidayData.drop o) = some mt) ↔ o = 13 * k :=
  hol_own_offset C20_holiday_wf hr o

/-- model = record reading on every real civil date -/
theorem C20_holiday_fromYmd (y m d : Int) (hv : Civil.valid y m d = true) :
    holFromYmd holidayData y m d = holAnswer (holOn (holRecs holidayData) y m d) :=
  holFromYmd_spec C20_holiday_wf hv

/-- Every record is returned for its own date and for no other: the look-up answers `h` exactly when `h` is a record
of the table whose date is the date asked (all integer arguments). -/
theorem C20_holiday_found_iff (y m d : Int) (h : Hol) :
    holFromYmd holidayData y m d = .found h ↔
      ∃ r ∈ holRecs holidayData, (r.y : Int) = y ∧ (r.m : Int) = m ∧ (r.d : Int) = d ∧ h = holOfRec r :=
  holFromYmd_found_iff C20_holiday_wf y m d h

/-- dates strictly increase along the table -/
theorem C20_holiday_increasing (i j : Nat) (hij : i < j) (ri rj : HolRec)
    (hi : (holRecs holidayData)[i]? = some ri) (hj : (holRecs holidayData)[j]? = some rj) :
    Civil.lt (ri.y, ri.m, ri.d) (rj.y, rj.m, rj.d) :=
  holRecs_increasing C20_holiday_wf hij hi hj

/-- Stepping visits the records in table order: `next n` of record `k` is record `k + n`, `None` outside the table
(every record, every integer `n`). -/
theorem C20_holiday_next (k : Nat) (r : HolRec) (hk : (holRecs holidayData)[k]? = some r) (n : Int) :
    holNext holidayData (holOfRec r) n = holAnswer (holStep (holRecs holidayData) k n) :=
  holNext_record C20_holiday_wf hk n

/-- …hence in strictly increasing date order: a positive step lands on a strictly later date -/
theorem C20_holiday_next_increasing (k : Nat) (r : HolRec) (hk : (holRecs holidayData)[k]? = some r) (n : Int) (hn : 0 < n)
    (h' : Hol) (hs : holNext holidayData (holOfRec r) n = .found h') :
    Civil.lt (r.y, r.m, r.d) (h'.y, h'.m, h'.d) :=
  holNext_increasing C20_holiday_wf hk hn hs

/-- Each record's compensated-festival offset points at a rest day in the table: the record `off` days away
(day numbers of the C01 model) exists and its work flag is off. -/
theorem C20_holiday_target : ∀ r ∈ holRecs holidayData, ∃ t ∈ holRecs holidayData,
    jdn t.y t.m t.d = jdn r.y r.m r.d + r.off ∧ t.work = false := by
  intro r hr
  obtain ⟨t, ht, htt⟩ := targetWalk_spec _ [] C20_tf_holiday.2 r hr
  simp only [isTarget, Bool.and_eq_true, beq_iff_eq, Bool.not_eq_true'] at htt
  rcases ht with ht | ht
  · cases ht
  · exact ⟨t, ht, htt.1, htt.2⟩

/-- non-vacuity (data-independent): the table is not empty; its first record is returned for its own date, and
stepping it by 0 returns it -/
example : ∃ r, (holRecs holidayData)[0]? = some r ∧
    holFromYmd holidayData r.y r.m r.d = .found (holOfRec r) ∧ holNext holidayData (holOfRec r) 0 = .found (holOfRec r) := by
  have hpos : 0 < holidayData.length / 13 := by
    simp only [holidayData, List.length_append]; decide +kernel
  have h0 := holRecs_getElem? (data := holidayData) hpos
  refine ⟨_, h0, ?_, ?_⟩
  · exact (C20_holiday_found_iff _ _ _ _).2 ⟨_, List.mem_of_getElem? h0, rfl, rfl, rfl, rfl⟩
  · rw [C20_holiday_next 0 _ h0 0]
    unfold holStep
    simp only [Int.add_zero]
    rw [if_neg (by omega)]
    have : ((0 : Nat) : Int).toNat = 0 := rfl
    rw [this, h0]; rfl

/-- non-vacuity of the lunar theorems (data-independent): over a calendar that answers every query, festival 0 of a
year is found by index, whatever kind of record it is -/
example : ∃ (C : Cal) (f : LunarFest), lunarFromIndex C lunarNames.length lunarData 2000 0 = .found f := by
  have hlen : 0 < (lunarRecs lunarData).length := by decide +kernel
  refine ⟨⟨fun _ _ _ => true, fun _ _ _ => some 0, fun _ => some (0, 1, 1), fun _ _ => some 0⟩, ?_⟩
  simp only [C20_lunar_fromIndex, lunarAt]
  rw [if_neg (by omega)]
  have : (0 : Int).toNat = 0 := rfl
  rw [this, List.getElem?_eq_getElem hlen]
  simp only []
  cases (lunarRecs lunarData)[0] with
  | day idx m d => exact ⟨⟨idx, 0, 2000, m, d, -1⟩, by simp [lunarRecEval]⟩
  | term idx t => exact ⟨⟨idx, 1, 0, 1, 1, Fest.indexOf t 24⟩, by simp [lunarRecEval, Cal.termLunar]⟩
  | eve idx => exact ⟨⟨idx, 2, 0, 1, 1, -1⟩, by simp [lunarRecEval, Cal.step]⟩

/-- the hypotheses of `C20_lunar_back` are satisfiable: for every fixed-date record and every year, a calendar that accepts
the day satisfies `BackHyp` (so the law holds for all fixed-date festivals outright, given the day is valid) -/
example (C : Cal) (y : Int) (i idx m d : Nat) (hr : (lunarRecs lunarData)[i]? = some (.day idx m d))
    (hv : C.valid y m d = true) (ht : ∀ p ∈ (lunarRecs lunarData).filterMap termOf, (C.termLunar y p.2).isSome = true) :
    lunarFromIndex C lunarNames.length lunarData y i = .found ⟨idx, 0, y, m, d, -1⟩ ∧
    BackHyp C (lunarRecs lunarData) y i ⟨idx, 0, y, m, d, -1⟩ := by
  have hpos := struct_pos C20_tf_lunar_wf.struct hr
  simp only [recIdx] at hpos
  refine ⟨?_, ⟨hv, ?_, fun h => absurd rfl h, ht, fun h => by cases h⟩⟩
  · simp only [C20_lunar_fromIndex, lunarAt_nat, hr, lunarRecEval, hv, if_true]
  · intro j hj
    have := (struct_at C20_tf_lunar_wf.struct hr).2
    simp only [] at hj
    rw [this] at hj
    have := Option.some.inj hj
    omega

end Tyme

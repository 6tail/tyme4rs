import Tyme.Thm.C08
import Tyme.Model.EightChar
/-!
C09 — hour pillar, 23:00 day roll-over, eight characters and their inverse. Property theorems (`C09_*`).
Model: `SC.hourPillar` (LunarHour::get_sixty_cycle), `SC.ofSolarTime` (SixtyCycleHour::from_solar_time),
`EC.ofTime` (eight characters, default provider), `EC.solarTimes` (EightChar::get_solar_times after fixes D7, D20).
The unprefixed lemmas read the search as a list function, for any ephemeris: `mem_loopYears` / `loopYears_some` (the 60-year
loop), `filterM'_eq_some` (the verification pass), `mem_solarTimes` / `solarTimes_some`; `C09_sound` here and
`C09_complete_real` (Thm/C09b.lean) are their two readings.
-/
namespace Tyme
open SC EC

/-- the hour pillar: the hour branch is ⌊(h+1)/2⌋ mod 12, the hour stem follows from the stem of the day pillar in force
(the NEXT day's from 23:00) by the Five-Rats rule stem = (dayStem mod 5)·2 + branch, and the pair is always one of the
sixty — the closed form `hourPillar_eq` read modulo 12 and modulo 10. -/
theorem C09_hour (dp h : Int) (hd : 0 ≤ dp) (hd2 : dp < 60) (hh : 0 ≤ h) (hh2 : h < 24) :
    ∃ p : Int, hourPillar dp h = some p ∧ p % 12 = ((h + 1) / 2) % 12 ∧
      p % 10 = (((dp + (if h ≥ 23 then 1 else 0)) % 60) % 10 % 5 * 2 + ((h + 1) / 2) % 12) % 10 :=
  ⟨_, hourPillar_eq dp h, by omega, by split <;> omega⟩

/-- 23:00 roll-over: the instant-level view reports the next day's pillar from 23:00, the civil day's before;
its hour pillar is the lunar-hour pillar of the civil day's pillar (inversion of the model). -/
theorem C09_roll (E : Eph) (Y M D h mi s : Int) (v : HourView) (hv : ofSolarTime E Y M D h mi s = some v) :
    ∃ x k dp, Lunar.ofSolar E Y M D = some (x, k) ∧ dayPillar (Lunar.first E x) k = some dp ∧
      v.day = (if h = 23 then cycNext dp 1 else dp) ∧ hourPillar dp h = some v.hour := by
  obtain ⟨x, k, _, hx, _, _, _, hd, hh⟩ := ofSolarTime_inv E Y M D h mi s v hv
  refine ⟨x, k, _, hx, dayPillar_eq _ _, ?_, ?_⟩
  · rw [hd, cycNext_eq]; split <;> omega
  · rw [hourPillar_eq, hh]; congr 1; split <;> omega

/-- the eight characters of an instant are exactly its year, month, day and hour pillars (default strategy) -/
theorem C09_compose (E : Eph) (t : Time) (e : EightChar) (h : ofTime E t = some e) :
    ∃ v, ofSolarTime E t.1 t.2.1 t.2.2.1 t.2.2.2.1 t.2.2.2.2.1 t.2.2.2.2.2 = some v ∧
      e.year = v.year ∧ e.month = v.month ∧ e.day = v.day ∧ e.hour = v.hour := by
  obtain ⟨v, hv, rfl⟩ := Option.map_eq_some_iff.1 h
  exact ⟨v, hv, rfl, rfl, rfl, rfl⟩

/-- the 60-year loop as a list function: the elements of its result are those of the steps at the years y, y + 60, … up to y1 -/
theorem mem_loopYears (E : Eph) (ec : EightChar) (m : Int) (hours : List Int) (y0 y1 : Int) :
    ∀ (f : Nat) (y : Int) (L : List Time), loopYears E ec m hours y0 y1 f y = some L →
      ∀ c, c ∈ L ↔ ∃ Y, y ≤ Y ∧ Y ≤ y1 ∧ Y < y + 60 * (f : Int) ∧ (Y - y) % 60 = 0 ∧
        ∃ l, candidatesAt E ec m hours y0 Y = some l ∧ c ∈ l := by
  intro f
  induction f with
  | zero =>
    intro y L h c
    cases h
    exact ⟨fun h => (by cases h), fun ⟨Y, _, _, _, _⟩ => by omega⟩
  | succ f ih =>
    intro y L h c
    rw [loopYears] at h
    split at h
    · rename_i hle
      split at h
      · cases h
      · rename_i l hl
        split at h
        · cases h
        · rename_i r hr
          cases h
          rw [List.mem_append, ih (y + 60) r hr c]
          constructor
          · rintro (hc | ⟨Y, h1, h2, h3, h4, l', hl', hc⟩)
            · exact ⟨y, by omega, hle, by omega, by omega, l, hl, hc⟩
            · exact ⟨Y, by omega, h2, by omega, by omega, l', hl', hc⟩
          · rintro ⟨Y, h1, h2, h3, h4, l', hl', hc⟩
            by_cases hY : Y = y
            · rw [hY, hl] at hl'
              cases hl'
              exact Or.inl hc
            · exact Or.inr ⟨Y, by omega, h2, by omega, by omega, l', hl', hc⟩
    · cases h
      exact ⟨fun h => (by cases h), fun ⟨Y, _, _, _, _⟩ => by omega⟩

/-- …and it returns when every step from y to y1 does -/
theorem loopYears_some (E : Eph) (ec : EightChar) (m : Int) (hours : List Int) (y0 y1 : Int) :
    ∀ (f : Nat) (y : Int), (∀ Y, y ≤ Y → Y ≤ y1 → ∃ l, candidatesAt E ec m hours y0 Y = some l) →
      ∃ L, loopYears E ec m hours y0 y1 f y = some L := by
  intro f
  induction f with
  | zero => intro y _; exact ⟨[], rfl⟩
  | succ f ih =>
    intro y h
    rw [loopYears]
    split
    · rename_i hle
      obtain ⟨l, hl⟩ := h y (Int.le_refl y) hle
      obtain ⟨r, hr⟩ := ih (y + 60) fun Y h1 h2 => h Y (by omega) h2
      rw [hl, hr]
      exact ⟨_, rfl⟩
    · exact ⟨[], rfl⟩

/-- the verification pass as a list function: it returns exactly when every element is decided, and then it is the filter
by "decided true" -/
theorem filterM'_eq_some (f : Time → Option Bool) (l r : List Time) :
    filterM' f l = some r ↔ (∀ c ∈ l, ∃ b, f c = some b) ∧ r = l.filter fun c => f c == some true := by
  induction l generalizing r with
  | nil => simp [filterM', eq_comm]
  | cons x xs ih =>
    simp only [filterM', List.forall_mem_cons, List.filter_cons]
    cases hx : f x with
    | none => simp
    | some b =>
      cases hr : filterM' f xs with
      | none =>
        refine ⟨fun h => (by cases h), fun h => ?_⟩
        have := (ih _).2 ⟨h.1.2, rfl⟩
        rw [hr] at this; cases this
      | some r' =>
        obtain ⟨hall, rfl⟩ := (ih r').1 hr
        have e : (some b == some true) = b := by cases b <;> rfl
        simp only [e, Option.some.injEq]
        exact ⟨fun h => ⟨⟨⟨b, rfl⟩, hall⟩, h.symm⟩, fun h => h.2.symm⟩

theorem verify_eq_true (E : Eph) (ec : EightChar) (y0 : Int) (t : Time) :
    verify E ec y0 t = some true ↔ t.1 ≥ y0 ∧ ofTime E t = some ec := by
  unfold verify
  split
  · rename_i hy
    cases ofTime E t <;> simp [hy]
  · rename_i hy
    simp [hy]

/-- what the search returns: the candidates in range that have the wanted characters -/
theorem mem_solarTimes (E : Eph) (ec : EightChar) (y0 y1 : Int) (r : List Time) (h : solarTimes E ec y0 y1 = some r) (t : Time) :
    t ∈ r ↔ ∃ l, candidates E ec y0 y1 = some l ∧ t ∈ l ∧ t.1 ≥ y0 ∧ ofTime E t = some ec := by
  unfold solarTimes at h
  cases hc : candidates E ec y0 y1 with
  | none => rw [hc] at h; cases h
  | some l =>
    rw [hc] at h
    obtain ⟨_, rfl⟩ := (filterM'_eq_some _ l r).1 h
    simp [List.mem_filter, verify_eq_true]

theorem solarTimes_some (E : Eph) (ec : EightChar) (y0 y1 : Int) (l : List Time) (hl : candidates E ec y0 y1 = some l)
    (hconv : ∀ c ∈ l, c.1 ≥ y0 → ∃ e, ofTime E c = some e) : ∃ r, solarTimes E ec y0 y1 = some r := by
  unfold solarTimes
  rw [hl]
  refine ⟨_, (filterM'_eq_some _ l _).2 ⟨fun c hc => ?_, rfl⟩⟩
  unfold verify
  split
  · rename_i hy
    obtain ⟨e, he⟩ := hconv c hc hy
    exact ⟨_, by rw [he]; rfl⟩
  · exact ⟨false, rfl⟩

/-- SOUNDNESS of the inverse search, any ephemeris, any range: every returned instant lies in a year ≥ the
start year and has exactly the wanted eight characters. -/
theorem C09_sound (E : Eph) (ec : EightChar) (y0 y1 : Int) (r : List Time) (h : solarTimes E ec y0 y1 = some r) :
    ∀ t, t ∈ r → t.1 ≥ y0 ∧ ofTime E t = some ec :=
  fun t ht => let ⟨_, _, _, hy, he⟩ := (mem_solarTimes E ec y0 y1 r h t).1 ht; ⟨hy, he⟩

/-- completeness ingredient 1: the 60-year stride starts at a year with the wanted year pillar
(year 1 = Xin-You, index 57), and every later candidate year has it too -/
theorem C09_year_cycle (yp : Int) (h0 : 0 ≤ yp) (h1 : yp < 60) (k : Int) :
    yearPillar (cycNext yp (-57) + 1 + 60 * k) = yp := by
  rw [yearPillar_eq, cycNext_eq]; omega

/-- completeness ingredient 2: the day offset from the Jie day: the unique 0 ≤ d < 60 that turns the Jie
day's pillar p into the wanted day pillar q (a sexagenary month is shorter than 60 days, so at most one day
of the month has it) -/
theorem C09_day_offset (p q : Int) (hp : 0 ≤ p ∧ p < 60) (hq : 0 ≤ q ∧ q < 60) :
    0 ≤ cycNext q (-p) ∧ cycNext q (-p) < 60 ∧ (p + cycNext q (-p)) % 60 = q ∧
    ∀ d, 0 ≤ d → d < 60 → (p + d) % 60 = q → d = cycNext q (-p) := by
  rw [cycNext_eq]
  refine ⟨by omega, by omega, by omega, ?_⟩
  intro d h0 h1 h2
  omega

/-- completeness ingredient 3: the month offset from Lichun that the search computes is m = (month branch − 2) mod 12 -/
theorem C09_month_offset (mp : Int) (h0 : 0 ≤ mp) (h1 : mp < 60) :
    indexOf (mp % 12 - 2) 12 = (mp % 12 + 10) % 12 := by
  rw [indexOf_12]; omega

/-- second on the civil time line (for stating the completeness clause) -/
def secOf (t : Time) : Int := 86400 * jdn t.1 t.2.1 t.2.2.1 + 3600 * t.2.2.2.1 + 60 * t.2.2.2.2.1 + t.2.2.2.2.2

/-- start of the double-hour containing t: 23:00 of the previous day for hour 23/0, else the odd hour -/
def doubleHourStart (t : Time) : Int := (secOf t + 3600) / 7200 * 7200 - 3600

/-- FULL completeness clause of the property, for any ephemeris and any range. `C09_complete_real` (Thm/C09b.lean) proves it
for `realEph` and searches inside AD 243..9995; for searches touching years before 243 or after 9995 (junction
neighbourhoods, the end of the table) it is decided by the sweep on random instants and every double-hour of sampled days:
if an instant t of the searched range has characters ec and no Jie instant falls inside its double-hour, the
search returns an instant of the same double-hour. -/
def C09_complete_full (E : Eph) : Prop :=
  ∀ (t : Time) (ec : EightChar) (y0 y1 : Int), y0 ≤ t.1 → t.1 ≤ y1 → ofTime E t = some ec →
    (∀ g : Nat, g % 2 = 1 → ¬ (doubleHourStart t ≤ E.termSec g ∧ E.termSec g < doubleHourStart t + 7200)) →
    ∃ l r, solarTimes E ec y0 y1 = some l ∧ r ∈ l ∧ doubleHourStart r = doubleHourStart t

end Tyme

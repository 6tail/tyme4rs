import Tyme.Thm.C02b
import Tyme.Lemmas.DayViewTotal
import Tyme.Thm.C07
import Tyme.Thm.C08b
/-!
TOTALITY of the guess-and-walk look-ups behind C06, C07 and C08, on the data re-extracted from /repo in this run:
`SolarDay::get_term_day` and `SixtyCycleDay::from_solar_day` RETURN for every civil date of the stated ranges (the fuel
the models carry — 30 rounds of the term walk, 40 of the month walk — is never exhausted), and what they return is
what the partial-correctness theorems of Thm/C06, C07, C08b describe. With these, the property statements hold for
every date of the range with no "if the call returns" hypothesis.
-/
namespace Tyme
open Lunar Cont

/-- `get_term_day`, total, for any ephemeris with the term facts: every civil date of the years 1..9998 on or after the
first representable term belongs to exactly one term — the look-up returns, the term it returns starts on or before the
day, the next one after it, every later representable term is later still, and the day index is the distance to the
term's first day, 0..15. -/
theorem ofDay_total_spec (E : Eph) (tf : TermFacts E) (Y M D : Int) (hv : Civil.valid Y M D = true) (hY : Y ≤ 9998)
    (h1 : E.termDay 1 ≤ jdn Y M D) :
    ∃ g k, Term.ofDay E Y M D = some (g, k) ∧ 1 ≤ g ∧ g + 1 ≤ 239977 ∧
      E.termDay g ≤ jdn Y M D ∧ jdn Y M D < E.termDay (g + 1) ∧
      (∀ g', g < g' → g' ≤ 239977 → jdn Y M D < E.termDay g') ∧
      k = jdn Y M D - E.termDay g ∧ 0 ≤ k ∧ k ≤ 15 := by
  obtain ⟨hY1, _⟩ := (valid_iff Y M D).1 hv
  obtain ⟨⟨g, k⟩, h⟩ := ofDay_total E tf Y M D hv hY h1
  obtain ⟨a1, a2, a3, a4, a5⟩ := C06_ofDay_spec E Y M D g k h
  obtain ⟨hg1, _, ghi, hn⟩ := term_of_civil tf Y M D hv hY g a1 a2 a3
  have hg : g + 1 ≤ 239977 := by omega
  have hinc := (tf.inc g hg1 hg).2
  exact ⟨g, k, h, hg1, hg, a2, hn, fun g' hlt hle => lt_term_of_index_lt (termDay_step tf) (by omega) hle hn hlt, a4, a5, by omega⟩

/-- C06, total, on the extracted tables: every civil date of the years 1..9998 on or after the first representable term
belongs to exactly one term (`ofDay_total_spec`). -/
theorem C06_ofDay_total_real (Y M D : Int) (hv : Civil.valid Y M D = true) (hY : Y ≤ 9998)
    (h1 : realEph.termDay 1 ≤ jdn Y M D) :
    ∃ g k, Term.ofDay realEph Y M D = some (g, k) ∧ 1 ≤ g ∧ g + 1 ≤ 239977 ∧
      realEph.termDay g ≤ jdn Y M D ∧ jdn Y M D < realEph.termDay (g + 1) ∧
      (∀ g', g < g' → g' ≤ 239977 → jdn Y M D < realEph.termDay g') ∧
      k = jdn Y M D - realEph.termDay g ∧ 0 ≤ k ∧ k ≤ 15 :=
  ofDay_total_spec realEph realEph_termFacts Y M D hv hY h1

/-- the first representable term of this run's data starts on or before 0001-02-01 (so only January of year 1 can precede it) -/
theorem C06_first_term_real : realEph.termDay 1 ≤ jdn 1 2 1 := by
  have := realEph_termFacts.first_term_le
  have e : jdn 1 2 1 = jdn 1 1 1 + 31 := by decide
  omega

/-- C07, total: every civil date of the good years (from the first representable term on) HAS a sexagenary-day view,
and its day pillar is (day number + 49) mod 60. -/
theorem C07_view_total_real (Y M D : Int) (hv : Civil.valid Y M D = true)
    (hy : (1 ≤ Y ∧ Y ≤ 6) ∨ (10 ≤ Y ∧ Y ≤ 21) ∨ (26 ≤ Y ∧ Y ≤ 234) ∨ (241 ≤ Y ∧ Y ≤ 9997))
    (h1 : realEph.termDay 1 ≤ jdn Y M D) :
    ∃ v, SC.ofSolarDay realEph Y M D = some v ∧ v.day = (jdn Y M D + 49) % 60 := by
  have ht := realEph_tiles_around Y hy
  obtain ⟨i1, i2, i3, i4⟩ := C02_interval_of_year realEph realEph_newYearFacts (Y - 1) (Y + 1) (by omega) (by omega) Y M D hv
    (Or.inr (by omega)) (by omega)
  obtain ⟨v, hvw⟩ := ofSolarDay_total realEph realEph_leap_le realEph_termFacts realEph_newYearFacts C02_first_year_real
    _ _ (by omega) (by omega) ht Y M D hv i1 i2 i3 i4 h1
  exact ⟨v, hvw, C07_view realEph realEph_leap_le _ _ ht Y M D i1 i2 i3 i4 v hvw⟩

/-- C08, total: every civil date of the years 10..21, 26..234, 241..9997 HAS a sexagenary-day view whose year pillar
is that of the Lichun-delimited year (the year changes at the Lichun day, not on January 1 or at the lunar new year). -/
theorem C08_day_total_real (Y M D : Int) (hv : Civil.valid Y M D = true)
    (hy : (10 ≤ Y ∧ Y ≤ 21) ∨ (26 ≤ Y ∧ Y ≤ 234) ∨ (241 ≤ Y ∧ Y ≤ 9997)) :
    ∃ v, SC.ofSolarDay realEph Y M D = some v ∧
      v.year = ((if jdn Y M D < realEph.termDay (24 * (Y - 1) + 3).toNat then Y - 1 else Y) - 4) % 60 ∧
      v.day = (jdn Y M D + 49) % 60 := by
  obtain ⟨v, hvw, hd⟩ := C07_view_total_real Y M D hv (by omega) (first_term_le_date realEph_termFacts Y M D hv (by omega))
  have ht := realEph_tilesOn ((Y - 1).toNat : Int) ((Y + 1).toNat : Int) (by omega) (by omega) (fun z _ _ => by omega)
  exact ⟨v, hvw, (C08_day_spec _ _ (by omega) (by omega) (by omega) ht Y M D hv (by omega) (by omega) v hvw).1, hd⟩

example : Civil.valid 2024 2 4 = true ∧ (241 ≤ (2024 : Int) ∧ (2024 : Int) ≤ 9997) := by decide

end Tyme

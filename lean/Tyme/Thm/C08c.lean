import Tyme.Thm.C16
import Tyme.Thm.C02b
import Tyme.Thm.C08
/-!
C08, third file — the INSTANT-level view (`SixtyCycleHour::from_solar_time`): the year pillar changes at the Lichun
INSTANT (second granularity) and the month pillar at each Jie INSTANT. The line is the seconds line:
`sec = 86400·(day number) + 3600 h + 60 mi + s`, `termSec g` = the second of term g's instant as the library reports it
(re-extracted data). `time_view_spec` gives all four pillars of an instant from the cell it lies in; the `C08_*`
statements are read off it. The file also holds totality at instant level: `C06_ofTime_total_real` (the term look-up
returns), `C08_time_total`, `C08_time_total_real` (the view exists).
-/
namespace Tyme
open Lunar SC Cont

/-- the instant view is assembled from exactly these pieces (inversion of the model) -/
theorem C08_hour_view (E : Eph) (Y M D h mi s : Int) (v : HourView) (hv : ofSolarTime E Y M D h mi s = some v) :
    ∃ x k g fm, Lunar.ofSolar E Y M D = some (x, k) ∧ Term.ofTime E Y M D h mi s = some g ∧
      lunarMonthPillar Y 0 = some fm ∧
      v.year = yearPillar (adjYear Y x.y (decide (86400 * jdn Y M D + 3600 * h + 60 * mi + s < E.termSec (24 * (Y - 1) + 3).toNat))) ∧
      v.month = cycNext fm (monthOffset ((g % 24 : Nat) : Int) (decide (E.termSec g > E.termSec (24 * (Y - 1) + 3).toNat))) := by
  obtain ⟨x, k, g, hx, hg, hy, hm, _, _⟩ := ofSolarTime_inv E Y M D h mi s v hv
  refine ⟨x, k, g, _, hx, hg, lunarMonthPillar_eq Y 0, hy, ?_⟩
  rw [hm, cycNext_eq]; omega

theorem realEph_termSec_step (g : Nat) (h1 : 1 ≤ g) (h2 : g + 1 ≤ 239977) : realEph.termSec g < realEph.termSec (g + 1) := by
  have := realEph_termInc g h1 h2
  omega

theorem termSec_le (a b : Nat) (ha : 1 ≤ a) (hab : a ≤ b) (hb : b ≤ 239977) : realEph.termSec a ≤ realEph.termSec b :=
  le_of_step realEph_termSec_step ha hab hb

theorem termSod_bounds (g : Nat) (h1 : 1 ≤ g) (h2 : g ≤ 239977) : 0 ≤ realEph.termSod g ∧ realEph.termSod g < 86400 := by
  by_cases h : g + 1 ≤ 239977
  · have := realEph_termInc g h1 h; omega
  · have := realEph_termInc (g - 1) (by omega) (by omega)
    rw [show g - 1 + 1 = g by omega] at this
    omega

/-- a term's instant lies within its civil day -/
theorem termSec_day (g : Nat) (h1 : 1 ≤ g) (h2 : g ≤ 239977) :
    86400 * realEph.termDay g ≤ realEph.termSec g ∧ realEph.termSec g < 86400 * (realEph.termDay g + 1) := by
  have := termSod_bounds g h1 h2
  have : realEph.termSec g = 86400 * realEph.termDay g + realEph.termSod g := rfl
  omega

/-- the term of an instant of civil year Y (2 ≤ Y ≤ 9998) lies between the winter solstice of Y and the Xiaohan of Y+1, and
the instant lies in its cell on the seconds line -/
theorem term_of_time_bounds (Y M D h mi s : Int) (hv : Civil.valid Y M D = true) (hh : 0 ≤ h ∧ h ≤ 23) (hmi : 0 ≤ mi ∧ mi ≤ 59)
    (hs : 0 ≤ s ∧ s ≤ 59) (hY1 : 2 ≤ Y) (hY2 : Y ≤ 9998)
    (g : Nat) (hg : Term.ofTime realEph Y M D h mi s = some g) :
    24 * (Y - 1) ≤ (g : Int) ∧ (g : Int) ≤ 24 * (Y - 1) + 25 ∧ 1 ≤ g ∧ g ≤ 239977 ∧
    realEph.termSec g ≤ 86400 * jdn Y M D + 3600 * h + 60 * mi + s ∧ 86400 * jdn Y M D + 3600 * h + 60 * mi + s < realEph.termSec (g + 1) := by
  have tf := realEph_termFacts
  obtain ⟨a1, a2, a3⟩ := C16_ofTime_spec realEph Y M D h mi s g hg
  obtain ⟨c1, c2⟩ := jdn_year_bounds Y M D hv
  have hgr : 1 ≤ g ∧ g ≤ 239977 := (tf.ne_zero_iff g).1 a1
  -- the winter solstice that opens the year is over before January 1; Dahan of the next year comes after December 31
  have dz := tf.dongzhiI Y hY1 (by omega)
  have lo := termSec_day (24 * (Y - 1)).toNat (by omega) (by omega)
  have dh := tf.dahan_ge (Y + 1) (by omega) (by omega)
  have hi := termSec_day (24 * (Y + 1 - 1) + 2).toNat (by omega) (by omega)
  have up := index_lt_of_lt_term realEph_termSec_step (x := (24 * (Y + 1 - 1) + 2).toNat) (by omega) hgr.2 a2 (by omega)
  have h3 := a3.resolve_left ((tf.ne_zero_iff _).2 ⟨by omega, by omega⟩)
  refine ⟨?_, by omega, hgr.1, hgr.2, a2, h3⟩
  by_cases hc : (g : Int) < 24 * (Y - 1)
  · have := lt_term_of_index_lt realEph_termSec_step (x := (24 * (Y - 1)).toNat) (by omega) (by omega) h3 (by omega)
    omega
  · omega

/-- THE INSTANT VIEW, end to end on the current tree's data: for every instant of a civil year strictly inside an interval
[a, b] of lunar years on which the month table tiles, the four pillars are counters on two lines. With g the term whose
instant is the latest at or before the instant: the year pillar counts the years ⌊(g−3)/24⌋ and the month pillar the months
N = ⌊(g−3)/2⌋ of the term line, both turning at the second of a Jie; the day pillar counts the pillar days (a pillar day
begins at 23:00) and the hour pillar their double-hours. -/
theorem time_view_spec (a b : Int) (ha0 : 0 ≤ a) (hb9 : b + 1 ≤ 9999) (ht : TilesOn realEph a b)
    (Y M D h mi s : Int) (hv : Civil.valid Y M D = true) (hh : 0 ≤ h ∧ h ≤ 23) (hmi : 0 ≤ mi ∧ mi ≤ 59) (hs : 0 ≤ s ∧ s ≤ 59)
    (hY : 2 ≤ Y) (hay : a + 1 ≤ Y) (hyb : Y + 1 ≤ b)
    (v : HourView) (hvw : ofSolarTime realEph Y M D h mi s = some v) :
    ∃ g : Nat, Term.ofTime realEph Y M D h mi s = some g ∧ 1 ≤ g ∧ g + 1 ≤ 239977 ∧
      24 * (Y - 1) ≤ (g : Int) ∧ (g : Int) ≤ 24 * (Y - 1) + 25 ∧
      realEph.termSec g ≤ 86400 * jdn Y M D + 3600 * h + 60 * mi + s ∧
      86400 * jdn Y M D + 3600 * h + 60 * mi + s < realEph.termSec (g + 1) ∧
      (86400 * jdn Y M D + 3600 * h + 60 * mi + s < realEph.termSec (24 * (Y - 1) + 3).toNat ↔ (g : Int) < 24 * (Y - 1) + 3) ∧
      v.year = yearPillar (monthOrd g / 12 + 1) ∧ v.month = (monthOrd g + 26) % 60 ∧
      v.day = (jdn Y M D + (if h = 23 then 1 else 0) + 49) % 60 ∧
      v.hour = (12 * (jdn Y M D + (if h = 23 then 1 else 0)) + (h + 1) / 2 % 12 + 48) % 60 := by
  obtain ⟨x, k, g, hx, hg, hyr, hmo, hda, hho⟩ := ofSolarTime_inv realEph Y M D h mi s v hvw
  generalize hsec : 86400 * jdn Y M D + 3600 * h + 60 * mi + s = sec at *
  obtain ⟨i1, i2, i3, i4⟩ := C02_interval_of_year realEph realEph_newYearFacts a b ha0 hb9 Y M D hv (Or.inr hay) hyb
  obtain ⟨_, _, _, xe, _, _⟩ := ofSolar_spec realEph realEph_leap_le a b ht Y M D i1 i2 i3 i4 (x, k) hx
  dsimp only at xe
  have hly := lunar_year_cases realEph realEph_leap_le realEph_termFacts realEph_newYearFacts a b hb9 ht Y M D hv i1 i2 i3 i4 x k hx
  -- the cell of the instant on the seconds line
  obtain ⟨gb1, gb2, hg1, hg2, t2, hn⟩ := term_of_time_bounds Y M D h mi s hv hh hmi hs hY (by omega) g hg
  rw [hsec] at t2 hn
  have dS := termSec_day (24 * (Y - 1) + 3).toNat (by omega) (by omega)
  obtain ⟨hbef, ry, rm⟩ := year_month_on_line realEph_termSec_step Y x.y g sec hg1 hg2 t2 hn ⟨gb1, gb2⟩ (by omega) (by omega)
    (by omega)
  refine ⟨g, hg, hg1, by omega, gb1, gb2, t2, hn, hbef, ?_, ?_, ?_, ?_⟩
  · rw [hyr, ry]
  · rw [hmo]; omega
  · rw [hda]; omega
  · rw [hho]; split <;> split <;> omega

/-- END-TO-END (instant view = rule) on the current tree's data, for every instant of the civil years a+1 .. b−1 of any
interval [a, b] of lunar years on which the month table tiles: with `sec` the instant's second, Y* = Y−1 before the
Lichun INSTANT of Y and Y from that second on, and g the term whose instant is the latest at or before `sec`:
year pillar = (Y* − 4) mod 60; month pillar = branch (2+k) mod 12, stem ((stem of Y* + 1)·2 + k) mod 10 with
k = ⌊(g − Lichun(Y*))/2⌋ ∈ 0..11 — both change at the second of the Jie, not at midnight. -/
theorem C08_time_spec (a b : Nat) (ha1 : 1 ≤ a) (hab : a + 1 ≤ b) (hb : b ≤ 9998) (ht : TilesOn realEph a b)
    (Y M D h mi s : Int) (hv : Civil.valid Y M D = true) (hh : 0 ≤ h ∧ h ≤ 23) (hmi : 0 ≤ mi ∧ mi ≤ 59) (hs : 0 ≤ s ∧ s ≤ 59)
    (hY1 : (a : Int) + 1 ≤ Y) (hY2 : Y + 1 ≤ b)
    (v : HourView) (hvw : ofSolarTime realEph Y M D h mi s = some v) :
    let sec := 86400 * jdn Y M D + 3600 * h + 60 * mi + s
    let springSec := realEph.termSec (24 * (Y - 1) + 3).toNat
    let ystar := if sec < springSec then Y - 1 else Y
    v.year = (ystar - 4) % 60 ∧
    ∃ g, Term.ofTime realEph Y M D h mi s = some g ∧ realEph.termSec g ≤ sec ∧ sec < realEph.termSec (g + 1) ∧
      0 ≤ ((g : Int) - (24 * (ystar - 1) + 3)) / 2 ∧ ((g : Int) - (24 * (ystar - 1) + 3)) / 2 ≤ 11 ∧
      v.month % 12 = (2 + ((g : Int) - (24 * (ystar - 1) + 3)) / 2) % 12 ∧
      v.month % 10 = ((((ystar - 4) % 60) % 10 + 1) * 2 + ((g : Int) - (24 * (ystar - 1) + 3)) / 2) % 10 := by
  intro sec springSec ystar
  obtain ⟨g, hg, _, _, gb1, gb2, t2, hn, hbef, hyr, hmo, _, _⟩ := time_view_spec a b (by omega) (by omega) ht Y M D h mi s hv hh hmi hs
    (by omega) hY1 hY2 v hvw
  obtain ⟨r1, r2, r3, r4, r5⟩ := rule_of_counters Y g ⟨gb1, gb2⟩ _ hbef v.year v.month hyr hmo
  exact ⟨r1, g, hg, t2, hn, r2, r3, r4, r5⟩

/-- instantiation: every instant of AD 241..9997 (the main tiling interval of the current data): the year pillar is that
of the year delimited by the Lichun INSTANT -/
theorem C08_time_spec_main (Y M D h mi s : Int) (hv : Civil.valid Y M D = true) (hh : 0 ≤ h ∧ h ≤ 23) (hmi : 0 ≤ mi ∧ mi ≤ 59)
    (hs : 0 ≤ s ∧ s ≤ 59) (hY1 : 241 ≤ Y) (hY2 : Y ≤ 9997)
    (v : HourView) (hvw : ofSolarTime realEph Y M D h mi s = some v) :
    v.year = ((if 86400 * jdn Y M D + 3600 * h + 60 * mi + s < realEph.termSec (24 * (Y - 1) + 3).toNat then Y - 1 else Y) - 4) % 60 :=
  (C08_time_spec 240 9998 (by omega) (by omega) (by omega) C02_good_intervals.2.2.2.2 Y M D h mi s hv hh hmi hs (by omega) (by omega) v hvw).1

open Term

theorem backS_total (sec : Int) (lo : Nat) (hlo1 : 1 ≤ lo) (hT : realEph.termSec lo ≤ sec) :
    ∀ (f g : Nat), lo ≤ g → g ≤ 239977 → g - lo ≤ f →
      ∃ r, backS realEph (f + 1) g sec = some r ∧ lo ≤ r ∧ r ≤ g ∧ (r = g ∨ sec < realEph.termSec (r + 1)) := by
  intro f g h1 h2 h3
  rw [backS_eq]
  exact back_total hT (fun x _ _ => (realEph_termFacts.ne_zero_iff x).2 ⟨by omega, by omega⟩) h1 (by omega)

theorem fwdS_total (sec : Int) (hi : Nat) (hhi : sec < realEph.termSec hi) :
    ∀ (f g : Nat), g < hi → hi - g ≤ f + 1 → ∃ r, fwdS realEph (f + 1) g sec = some r := by
  intro f g h1 h2
  rw [fwdS_eq]
  exact fwd_total hhi h1 h2

/-- C06 at instant level, TOTAL: every well-formed instant of the civil years 2..9998 belongs to exactly one solar term —
`SolarTime::get_term` returns, the returned term's instant is at or before the instant, the next term's after it, and
a representable term starts at or before the instant exactly when its index is at most the returned one. -/
theorem C06_ofTime_total_real (Y M D h mi s : Int) (hv : Civil.valid Y M D = true) (hh : 0 ≤ h ∧ h ≤ 23) (hmi : 0 ≤ mi ∧ mi ≤ 59)
    (hs : 0 ≤ s ∧ s ≤ 59) (hY1 : 2 ≤ Y) (hY2 : Y ≤ 9998) :
    ∃ g, Term.ofTime realEph Y M D h mi s = some g ∧ 1 ≤ g ∧ g + 1 ≤ 239977 ∧
      realEph.termSec g ≤ 86400 * jdn Y M D + 3600 * h + 60 * mi + s ∧
      86400 * jdn Y M D + 3600 * h + 60 * mi + s < realEph.termSec (g + 1) ∧
      ∀ g' : Nat, 1 ≤ g' → g' ≤ 239977 → (realEph.termSec g' ≤ 86400 * jdn Y M D + 3600 * h + 60 * mi + s ↔ g' ≤ g) := by
  have tf := realEph_termFacts
  obtain ⟨_, _, hM1, hM12, _⟩ := (valid_iff Y M D).1 hv
  obtain ⟨c1, c2⟩ := jdn_year_bounds Y M D hv
  -- the guess 24(Y−1) + 2M lies between the winter solstice that opens the year, which is over before January 1, and
  -- Lichun of the next year, both within the 30 rounds of fuel
  have dz := tf.dongzhiI Y hY1 (by omega)
  have lo := termSec_day (24 * (Y - 1)).toNat (by omega) (by omega)
  have lc := (tf.lichunI (Y + 1) (by omega) (by omega)).1
  have hi := termSec_day (24 * (Y + 1 - 1) + 3).toNat (by omega) (by omega)
  obtain ⟨g, hl⟩ := locate_total (Z := realEph.termDay) (T := realEph.termSec) (lo := (24 * (Y - 1)).toNat)
    (hi := (24 * (Y + 1 - 1) + 3).toNat) (g := (24 * (Y - 1) + 2 * M).toNat) (F := 30)
    (p := 86400 * jdn Y M D + 3600 * h + 60 * mi + s) (by omega) (by omega)
    (fun x _ _ => (tf.ne_zero_iff x).2 ⟨by omega, by omega⟩) (by omega) (by omega) (by omega) (by omega)
  have hg : Term.ofTime realEph Y M D h mi s = some g := by
    rw [ofTime_eq, if_neg (by omega)]; exact hl
  obtain ⟨_, b2, g1, g2, a2, hn⟩ := term_of_time_bounds Y M D h mi s hv hh hmi hs hY1 hY2 g hg
  refine ⟨g, hg, g1, by omega, a2, hn, fun g' h1 h2 => ?_⟩
  have := cell_lt_iff realEph_termSec_step g1 g2 a2 hn h1 h2
  omega

/-- TOTALITY at instant level: every instant of the civil years a+1 .. b−1 of a tiling interval HAS an instant-level view -/
theorem C08_time_total (a b : Nat) (ha1 : 1 ≤ a) (hab : a + 1 ≤ b) (hb : b ≤ 9998) (ht : TilesOn realEph a b)
    (Y M D h mi s : Int) (hv : Civil.valid Y M D = true) (hh : 0 ≤ h ∧ h ≤ 23) (hmi : 0 ≤ mi ∧ mi ≤ 59) (hs : 0 ≤ s ∧ s ≤ 59)
    (hY1 : (a : Int) + 1 ≤ Y) (hY2 : Y + 1 ≤ b) :
    ∃ v, ofSolarTime realEph Y M D h mi s = some v := by
  obtain ⟨i1, i2, i3, i4⟩ := C02_interval_of_year realEph realEph_newYearFacts a b (by omega) (by omega) Y M D hv (Or.inr hY1) hY2
  obtain ⟨⟨x, k⟩, hr⟩ := Cont.ofSolar_total realEph realEph_leap_le realEph_newYearFacts C02_first_year_real a b (by omega) (by omega) ht Y M D hv i1 i2 i3 i4
  have hly := lunar_year_cases realEph realEph_leap_le realEph_termFacts realEph_newYearFacts a b (by omega) ht Y M D hv i1 i2 i3 i4 x k hr
  obtain ⟨g, hg, _⟩ := C06_ofTime_total_real Y M D h mi s hv hh hmi hs (by omega) (by omega)
  have dS := termSec_day (24 * (Y - 1) + 3).toNat (by omega) (by omega)
  exact ofSolarTime_some realEph Y M D h mi s ⟨by omega, by omega⟩
    ((realEph_termFacts.ne_zero_iff _).2 ⟨by omega, by omega⟩) x k hr g hg
    (Lunar.fromYm_first realEph Y ⟨by omega, by omega⟩) (by omega)

/-- …for the data re-extracted from /repo: every instant of the civil years 10..21, 26..234, 241..9997 has an
instant-level view whose year pillar is that of the year delimited by the Lichun INSTANT -/
theorem C08_time_total_real (Y M D h mi s : Int) (hv : Civil.valid Y M D = true) (hh : 0 ≤ h ∧ h ≤ 23) (hmi : 0 ≤ mi ∧ mi ≤ 59)
    (hs : 0 ≤ s ∧ s ≤ 59) (hy : (10 ≤ Y ∧ Y ≤ 21) ∨ (26 ≤ Y ∧ Y ≤ 234) ∨ (241 ≤ Y ∧ Y ≤ 9997)) :
    ∃ v, ofSolarTime realEph Y M D h mi s = some v ∧
      v.year = ((if 86400 * jdn Y M D + 3600 * h + 60 * mi + s < realEph.termSec (24 * (Y - 1) + 3).toNat then Y - 1 else Y) - 4) % 60 := by
  -- the lunar years Y − 1 .. Y + 1 are free of the junction years
  have ht := realEph_tilesOn ((Y - 1).toNat : Int) ((Y + 1).toNat : Int) (by omega) (by omega) (fun z _ _ => by omega)
  obtain ⟨v, hvw⟩ := C08_time_total _ _ (by omega) (by omega) (by omega) ht Y M D h mi s hv hh hmi hs (by omega) (by omega)
  exact ⟨v, hvw, (C08_time_spec _ _ (by omega) (by omega) (by omega) ht Y M D h mi s hv hh hmi hs (by omega) (by omega) v hvw).1⟩

/-- non-vacuity on the real data: one second before and at the Lichun instant of 2024 (2024-02-04 16:27:05 as the library
reports it) the year pillar changes from 39 (Gui-Mao) to 40 (Jia-Chen) -/
example : (ofSolarTime realEph 2024 2 4 16 27 4).map (·.year) = some 39 ∧ (ofSolarTime realEph 2024 2 4 16 27 5).map (·.year) = some 40 := by
  rw [realEph_eq_quick]; decide +kernel

end Tyme

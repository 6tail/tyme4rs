import Tyme.Facts.Terms
import Tyme.Facts.Quick
import Tyme.Lemmas.IndexOf
import Tyme.Lemmas.TermLine
/-!
C06 — every day belongs to exactly one solar term. The property theorems are the `C06_*` (the instant-level look-up
`Term.ofTime` has its statements where they are proved: `C16_ofTime_spec` in Thm/C16.lean, `C06_ofTime_total_real` in
Thm/C08c.lean; totality at day level, `C06_ofDay_total_real`, is in Thm/Total.lean). The unprefixed lemmas at the end are
about the global index of a term and the Jie at or before it (`Term.gidx_next`, `Term.ofGidx_gidx`, `Term.ofGidx_parity`,
`Term.jie_before`: what C15 and C16 use).
Data: `realEph` term table re-extracted from /repo on every run (240,000 terms of years 1..10000, the civil day and
second of each precise instant as the library reports them). Model: `Term.next`, `Term.ofDay`, `Term.ofTime`
(SolarTerm::next, SolarDay::get_term_day, SolarTime::get_term after the `fix:` D6).
-/
namespace Tyme
open Term

/-- TABLE FACT (complete enumeration of 240,000 records): successive terms form one strictly increasing
sequence of instants 14.6–15.8 days apart (1,261,440 s … 1,365,120 s), their civil days 14–16 apart. -/
theorem C06_inc_fact : Packed.adjRec 72 termPair Gen.termsChunks = true := terms_inc_fact

/-- the same as a statement about the extracted ephemeris, for every representable adjacent pair -/
theorem C06_termInc (g : Nat) (h1 : 1 ≤ g) (h2 : g + 1 ≤ 239977) :
    realEph.termSec g + 1261440 ≤ realEph.termSec (g + 1) ∧ realEph.termSec (g + 1) ≤ realEph.termSec g + 1365120 ∧
    realEph.termDay g + 14 ≤ realEph.termDay (g + 1) ∧ realEph.termDay (g + 1) ≤ realEph.termDay g + 16 ∧
    0 ≤ realEph.termSod g ∧ realEph.termSod g < 86400 := by
  obtain ⟨a, b, c, d, e, f, _⟩ := realEph_termInc g h1 h2
  exact ⟨a, b, c, d, e, f⟩

/-- the helper `index_of` (truncating `%` plus repair) is the mathematical modulo (size 24) -/
theorem C06_indexOf (i : Int) : indexOf i 24 = i % 24 := tmod_repair i 24 (by decide)

/-- `next n` is the term n places later on the global sequence, crossing years in either direction
(all n with a non-negative total, i.e. results in year ≥ 0). -/
theorem C06_next_pos (y i n : Int) (hi : 0 ≤ i) (hi2 : i < 24) (ht : 0 ≤ y * 24 + i + n) :
    gidx (next (y, i) n) = gidx (y, i) + n ∧ 0 ≤ (next (y, i) n).2 ∧ (next (y, i) n).2 < 24 := by
  unfold next fromIndex gidx
  dsimp only
  rw [C06_indexOf]
  have h1 : Int.tdiv (y * 24 + (i + n)) 24 = (y * 24 + (i + n)) / 24 := Int.tdiv_eq_ediv_of_nonneg (by omega)
  rw [h1]
  have h2 : 0 ≤ (y * 24 + (i + n)) / 24 * 24 + (i + n) % 24 := by omega
  rw [Int.tdiv_eq_ediv_of_nonneg h2, C06_indexOf]
  omega

/-- the same on a pair -/
theorem Term.gidx_next (t : Int × Int) (n : Int) (h0 : 0 ≤ t.2) (h1 : t.2 < 24) (ht : 0 ≤ t.1 * 24 + t.2 + n) :
    gidx (next t n) = gidx t + n ∧ 0 ≤ (next t n).2 ∧ (next t n).2 < 24 :=
  C06_next_pos t.1 t.2 n h0 h1 ht

theorem Term.ofGidx_gidx (g : Nat) :
    gidx (ofGidx g) = g ∧ (ofGidx g).2 = ((g % 24 : Nat) : Int) ∧ (ofGidx g).1 = ((g / 24 : Nat) : Int) + 1 := by
  unfold gidx ofGidx
  dsimp only
  omega

/-- a Jie is an odd global index, a Qi an even one -/
theorem Term.ofGidx_parity (g : Nat) : isJie (ofGidx g) = decide (g % 2 = 1) ∧ isQi (ofGidx g) = decide (g % 2 = 0) := by
  have e := (ofGidx_gidx g).2.1
  constructor
  · unfold isJie
    rw [e, Bool.eq_iff_iff]
    simp only [beq_iff_eq, decide_eq_true_eq]
    omega
  · unfold isQi
    rw [e, Bool.eq_iff_iff]
    simp only [beq_iff_eq, decide_eq_true_eq]
    omega

/-- THE JIE AT OR BEFORE term g ≥ 1 as the code finds it — the term itself, or, when `q` says it is a Qi, the one before —
is the term with global index `if g % 2 = 1 then g else g - 1` -/
theorem Term.jie_before (g : Nat) (hg : 1 ≤ g) (q : Bool) (hq : q = decide (g % 2 = 0)) (t : Int × Int)
    (ht : (if q then next (ofGidx g) (-1) else ofGidx g) = t) :
    gidx t = ((if g % 2 = 1 then g else g - 1 : Nat) : Int) ∧ 0 ≤ t.2 ∧ t.2 < 24 := by
  obtain ⟨e1, e2, e3⟩ := ofGidx_gidx g
  subst hq ht
  by_cases hp : g % 2 = 1
  · rw [if_neg (by simp only [decide_eq_true_eq]; omega), if_pos hp]
    exact ⟨e1, by omega, by omega⟩
  · have s := gidx_next (ofGidx g) (-1) (by omega) (by omega) (by omega)
    rw [if_pos (by simp only [decide_eq_true_eq]; omega), if_neg hp]
    exact ⟨by omega, s.2⟩

/-- group laws of stepping (corollaries) -/
theorem C06_next_add (y i a b : Int) (hi : 0 ≤ i) (hi2 : i < 24) (h1 : 0 ≤ y * 24 + i + a) (h2 : 0 ≤ y * 24 + i + a + b) :
    next (next (y, i) a) b = next (y, i) (a + b) := by
  obtain ⟨p1, q1, r1⟩ := C06_next_pos y i a hi hi2 h1
  have e : next (y, i) a = ((next (y, i) a).1, (next (y, i) a).2) := rfl
  obtain ⟨p2, q2, r2⟩ := C06_next_pos (next (y, i) a).1 (next (y, i) a).2 b q1 r1 (by unfold gidx at p1; dsimp only at p1; omega)
  obtain ⟨p3, q3, r3⟩ := C06_next_pos y i (a + b) hi hi2 (by omega)
  rw [← e] at p2 q2 r2
  unfold gidx at p1 p2 p3
  dsimp only at p1 p2 p3
  apply Prod.ext <;> omega

theorem C06_next_zero (y i : Int) (hi : 0 ≤ i) (hi2 : i < 24) (hy : 0 ≤ y) : next (y, i) 0 = (y, i) := by
  obtain ⟨p, q, r⟩ := C06_next_pos y i 0 hi hi2 (by omega)
  unfold gidx at p; dsimp only at p
  apply Prod.ext <;> (dsimp only; omega)

/-- day → term (partial correctness): whatever `get_term_day` returns is a term that starts on or before
the day, the next term (if representable) starts after it, and the day index is the number of days elapsed. -/
theorem C06_ofDay_spec (E : Eph) (Y M D : Int) (g : Nat) (k : Int) (h : ofDay E Y M D = some (g, k)) :
    E.termDay g ≠ 0 ∧ E.termDay g ≤ jdn Y M D ∧ (E.termDay (g + 1) = 0 ∨ jdn Y M D < E.termDay (g + 1)) ∧
    k = jdn Y M D - E.termDay g ∧ 0 ≤ k := by
  rw [ofDay_eq] at h
  split at h
  · cases h
  · cases hl : locate E.termDay E.termDay FUEL (24 * (Y - 1) + 2 * M).toNat (jdn Y M D) with
    | none => rw [hl] at h; cases h
    | some r =>
      rw [hl] at h; cases h
      obtain ⟨a1, a2, a3⟩ := locate_spec hl
      exact ⟨a1, a2, a3, rfl, by omega⟩

/-- non-vacuity on the real data: 2024-02-04 is the first day of Lichun (term 3 of 2024). -/
example : ofDay realEph 2024 2 4 = some (24 * 2023 + 3, 0) := by rw [realEph_eq_quick]; decide +kernel

end Tyme

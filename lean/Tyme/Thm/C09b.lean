import Tyme.Thm.C09
import Tyme.Thm.C08c
/-!
C09, second file — COMPLETENESS of the inverse search `EightChar::get_solar_times` on the current tree's data
(`C09_complete_real`; the unprefixed lemmas are its steps), and `C09_via_lunar_real`. The search as a list function for any
ephemeris (`mem_loopYears`, `filterM'_eq_some`, `mem_solarTimes`, `solarTimes_some`) is in Thm/C09.lean.
-/
namespace Tyme
open Lunar SC EC Cont

/-- a well-formed instant -/
def TimeOK (t : EC.Time) : Prop :=
  Civil.valid t.1 t.2.1 t.2.2.1 = true ∧ (0 ≤ t.2.2.2.1 ∧ t.2.2.2.1 ≤ 23) ∧ (0 ≤ t.2.2.2.2.1 ∧ t.2.2.2.2.1 ≤ 59) ∧
  (0 ≤ t.2.2.2.2.2 ∧ t.2.2.2.2.2 ≤ 59)

/-- the day whose pillar is in force: the next civil day from 23:00 -/
def pillarDay (t : EC.Time) : Int := jdn t.1 t.2.1 t.2.2.1 + (if t.2.2.2.1 = 23 then 1 else 0)

/-- the double-hour of an instant, by number: 12 per pillar day, the branch within -/
theorem doubleHourStart_eq (t : EC.Time) (ht : TimeOK t) :
    doubleHourStart t = 7200 * (12 * pillarDay t + ((t.2.2.2.1 + 1) / 2) % 12) - 3600 ∧
    doubleHourStart t ≤ secOf t ∧ secOf t < doubleHourStart t + 7200 := by
  obtain ⟨_, hh, hm, hs⟩ := ht
  unfold doubleHourStart secOf pillarDay
  generalize jdn t.1 t.2.1 t.2.2.1 = j
  generalize t.2.2.2.1 = h at *
  generalize t.2.2.2.2.1 = mi at *
  generalize t.2.2.2.2.2 = s at *
  by_cases h23 : h = 23
  · subst h23; simp only [if_true]; omega
  · simp only [h23, if_false]; omega

/-- `time_view_spec` for a well-formed instant of AD 241..9997, on the lunar years around it, in this file's terms: the second
`secOf t`, the pillar day, the month number of the cell -/
theorem view_main (t : EC.Time) (ht : TimeOK t) (h1 : 241 ≤ t.1) (h2 : t.1 ≤ 9997) (v : HourView)
    (hv : ofSolarTime realEph t.1 t.2.1 t.2.2.1 t.2.2.2.1 t.2.2.2.2.1 t.2.2.2.2.2 = some v) :
    ∃ g : Nat, 1 ≤ g ∧ g + 1 ≤ 239977 ∧ 24 * (t.1 - 1) ≤ (g : Int) ∧ (g : Int) ≤ 24 * (t.1 - 1) + 25 ∧
      realEph.termSec g ≤ secOf t ∧ secOf t < realEph.termSec (g + 1) ∧
      v.year = (monthOrd g / 12 + 57) % 60 ∧ v.month = (monthOrd g + 26) % 60 ∧
      v.day = (pillarDay t + 49) % 60 ∧ v.hour = (12 * pillarDay t + (t.2.2.2.1 + 1) / 2 % 12 + 48) % 60 := by
  obtain ⟨g, _, g1, g2, gb1, gb2, g3, g4, _, ay, am, ad, ah⟩ := time_view_spec (t.1 - 1) (t.1 + 1) (by omega) (by omega)
    (realEph_tiles_around t.1 (by omega)) t.1 t.2.1 t.2.2.1 t.2.2.2.1 t.2.2.2.2.1 t.2.2.2.2.2 ht.1 ht.2.1 ht.2.2.1 ht.2.2.2
    (by omega) (by omega) (by omega) v hv
  exact ⟨g, g1, g2, gb1, gb2, g3, g4, by rw [ay, yearPillar_eq]; omega, am, ad, ah⟩

/-- what the instant-level view of a well-formed instant of the main interval is, in terms of the term g whose instant
is the latest at or before it: all four pillars as numbers -/
theorem C09_view_chars (t : EC.Time) (ht : TimeOK t) (hY1 : 241 ≤ t.1) (hY2 : t.1 ≤ 9997) (v : HourView)
    (hv : ofSolarTime realEph t.1 t.2.1 t.2.2.1 t.2.2.2.1 t.2.2.2.2.1 t.2.2.2.2.2 = some v) :
    ∃ g : Nat, 1 ≤ g ∧ g + 1 ≤ 239977 ∧ realEph.termSec g ≤ secOf t ∧ secOf t < realEph.termSec (g + 1) ∧
      24 * (t.1 - 1) ≤ (g : Int) ∧ (g : Int) ≤ 24 * (t.1 - 1) + 25 ∧
      v.year = (((g : Int) - 3) / 24 + 1 - 4) % 60 ∧
      0 ≤ v.month ∧ v.month < 60 ∧
      v.month % 12 = (2 + (((g : Int) - 3) % 24) / 2) % 12 ∧
      v.month % 10 = ((v.year % 10 + 1) * 2 + (((g : Int) - 3) % 24) / 2) % 10 ∧
      v.day = (pillarDay t + 49) % 60 ∧
      0 ≤ v.hour ∧ v.hour < 60 ∧ v.hour % 12 = ((t.2.2.2.1 + 1) / 2) % 12 ∧
      v.hour % 10 = (((pillarDay t + 49) % 60) % 10 % 5 * 2 + ((t.2.2.2.1 + 1) / 2) % 12) % 10 := by
  obtain ⟨g, g1, g2, gb1, gb2, t2, hn, hy, hmo, hd, hho⟩ := view_main t ht hY1 hY2 v hv
  obtain ⟨_, hh, _, _⟩ := ht
  unfold monthOrd at hy hmo
  exact ⟨g, g1, g2, t2, hn, gb1, gb2, by omega, by omega, by omega, by omega, by omega, hd, by omega, by omega, by omega, by omega⟩

/-- two instants of the same double-hour with no Jie instant inside it lie in the same Jie-delimited month -/
theorem same_jie (St : Int) (sa sb : Int) (ga gb : Nat) (ha1 : 1 ≤ ga) (ha2 : ga + 1 ≤ 239977) (hb1 : 1 ≤ gb) (hb2 : gb + 1 ≤ 239977)
    (a1 : realEph.termSec ga ≤ sa) (a2 : sa < realEph.termSec (ga + 1))
    (b1 : realEph.termSec gb ≤ sb) (b2 : sb < realEph.termSec (gb + 1))
    (wa : St ≤ sa ∧ sa < St + 7200) (wb : St ≤ sb ∧ sb < St + 7200)
    (hJ : ∀ g : Nat, g % 2 = 1 → ¬ (St ≤ realEph.termSec g ∧ realEph.termSec g < St + 7200)) :
    (ga - 1) / 2 = (gb - 1) / 2 := by
  have key : ∀ (gx gy : Nat) (sx sy : Int), 1 ≤ gx → gx + 1 ≤ 239977 → 1 ≤ gy → gy + 1 ≤ 239977 →
      realEph.termSec gx ≤ sx → sx < realEph.termSec (gx + 1) → realEph.termSec gy ≤ sy → sy < realEph.termSec (gy + 1) →
      (St ≤ sx ∧ sx < St + 7200) → (St ≤ sy ∧ sy < St + 7200) → ¬ ((gx - 1) / 2 < (gy - 1) / 2) := by
    intro gx gy sx sy x1 x2 y1 y2 p1 p2 q1 q2 wx wy hlt
    -- J = the Jie at or before gy; it is later than gx's successor, so its instant lies between sx and sy
    have hJy : (2 * ((gy - 1) / 2) + 1) % 2 = 1 := by omega
    have l1 := termSec_le (2 * ((gy - 1) / 2) + 1) gy (by omega) (by omega) (by omega)
    have l2 := termSec_le (gx + 1) (2 * ((gy - 1) / 2) + 1) (by omega) (by omega) (by omega)
    exact hJ _ hJy ⟨by omega, by omega⟩
  have k1 := key ga gb sa sb ha1 ha2 hb1 hb2 a1 a2 b1 b2 wa wb
  have k2 := key gb ga sb sa hb1 hb2 ha1 ha2 b1 b2 a1 a2 wb wa
  omega

/-- two well-formed instants of the same double-hour, with no Jie instant inside that double-hour, have the same four
pillars (main interval of the current data) -/
theorem C09_same_double_hour (t r : EC.Time) (ht : TimeOK t) (hr : TimeOK r) (ht1 : 241 ≤ t.1) (ht2 : t.1 ≤ 9997)
    (hr1 : 241 ≤ r.1) (hr2 : r.1 ≤ 9997) (v w : HourView)
    (hv : ofSolarTime realEph t.1 t.2.1 t.2.2.1 t.2.2.2.1 t.2.2.2.2.1 t.2.2.2.2.2 = some v)
    (hw : ofSolarTime realEph r.1 r.2.1 r.2.2.1 r.2.2.2.1 r.2.2.2.2.1 r.2.2.2.2.2 = some w)
    (hS : doubleHourStart r = doubleHourStart t)
    (hJ : ∀ g : Nat, g % 2 = 1 → ¬ (doubleHourStart t ≤ realEph.termSec g ∧ realEph.termSec g < doubleHourStart t + 7200)) :
    v.year = w.year ∧ v.month = w.month ∧ v.day = w.day ∧ v.hour = w.hour := by
  obtain ⟨ga, a1, a2, _, _, a3, a4, ay, am, ad, ah⟩ := view_main t ht ht1 ht2 v hv
  obtain ⟨gb, b1, b2, _, _, b3, b4, by', bm, bd, bh⟩ := view_main r hr hr1 hr2 w hw
  obtain ⟨qa, wa1, wa2⟩ := doubleHourStart_eq t ht
  obtain ⟨qb, wb1, wb2⟩ := doubleHourStart_eq r hr
  rw [hS] at wb1 wb2
  -- same month of the term line, same double-hour of the day line
  have hu := same_jie (doubleHourStart t) (secOf t) (secOf r) ga gb a1 a2 b1 b2 a3 a4 b3 b4 ⟨wa1, wa2⟩ ⟨wb1, wb2⟩ hJ
  have em : monthOrd ga = monthOrd gb := by unfold monthOrd; omega
  have ep : pillarDay r = pillarDay t ∧ (r.2.2.2.1 + 1) / 2 % 12 = (t.2.2.2.1 + 1) / 2 % 12 := by omega
  exact ⟨by rw [ay, by', em], by rw [am, bm, em], by rw [ad, bd, ep.1], by rw [ah, bh, ep.1, ep.2]⟩

theorem ofTime_total_main (c : EC.Time) (hc : TimeOK c) (h1 : 241 ≤ c.1) (h2 : c.1 ≤ 9997) : ∃ e, EC.ofTime realEph c = some e := by
  obtain ⟨w, hw, _⟩ := C08_time_total_real _ _ _ _ _ _ hc.1 hc.2.1 hc.2.2.1 hc.2.2.2 (Or.inr (Or.inr ⟨h1, h2⟩))
  exact ⟨_, by unfold EC.ofTime; rw [hw]; rfl⟩

/-- the eight characters of an instant of the main interval are those of every other instant of its double-hour, unless a
Jie instant falls inside that double-hour -/
theorem ofTime_same_double_hour (t r : EC.Time) (ht : TimeOK t) (hr : TimeOK r) (ht1 : 241 ≤ t.1) (ht2 : t.1 ≤ 9997)
    (hr1 : 241 ≤ r.1) (hr2 : r.1 ≤ 9997) (ec : EightChar) (hec : EC.ofTime realEph t = some ec)
    (hS : doubleHourStart r = doubleHourStart t)
    (hJ : ∀ g : Nat, g % 2 = 1 → ¬ (doubleHourStart t ≤ realEph.termSec g ∧ realEph.termSec g < doubleHourStart t + 7200)) :
    EC.ofTime realEph r = some ec := by
  obtain ⟨e, he⟩ := ofTime_total_main r hr hr1 hr2
  obtain ⟨v, hv, v1, v2, v3, v4⟩ := C09_compose realEph t ec hec
  obtain ⟨w, hw, w1, w2, w3, w4⟩ := C09_compose realEph r e he
  obtain ⟨s1, s2, s3, s4⟩ := C09_same_double_hour t r ht hr ht1 ht2 hr1 hr2 v w hv hw hS hJ
  rw [he]
  cases e; cases ec
  simp only [Option.some.injEq, EightChar.mk.injEq] at *
  omega

def mkTime (j hour mi s : Int) : EC.Time := ((ofJdn j).1, (ofJdn j).2.1, (ofJdn j).2.2, hour, mi, s)

/-- what one 60-year step of the search contributes (main interval): the Jie day of the wanted month in term-year y,
moved forward to the first day with the wanted day pillar, at each candidate hour -/
theorem candidatesAt_eq (ec : EightChar) (k : Int) (hk : 0 ≤ k ∧ k ≤ 11) (hours : List Int) (y0 y : Int)
    (hy : 242 ≤ y ∧ y ≤ 9995) :
    candidatesAt realEph ec (k * 2) hours y0 y = some
      (if (ofJdn (realEph.termDay (24 * (y - 1) + 3 + 2 * k).toNat)).1 ≥ y0 - 1 then
        hours.map fun hour =>
          if (ec.day - (realEph.termDay (24 * (y - 1) + 3 + 2 * k).toNat + 49)) % 60 = 0 ∧
              hour = realEph.termSod (24 * (y - 1) + 3 + 2 * k).toNat / 3600 then
            mkTime (realEph.termDay (24 * (y - 1) + 3 + 2 * k).toNat + (ec.day - (realEph.termDay (24 * (y - 1) + 3 + 2 * k).toNat + 49)) % 60)
              hour (realEph.termSod (24 * (y - 1) + 3 + 2 * k).toNat % 3600 / 60) (realEph.termSod (24 * (y - 1) + 3 + 2 * k).toNat % 60)
          else mkTime (realEph.termDay (24 * (y - 1) + 3 + 2 * k).toNat + (ec.day - (realEph.termDay (24 * (y - 1) + 3 + 2 * k).toNat + 49)) % 60) hour 0 0
       else []) ∧
    jdn y 1 1 < realEph.termDay (24 * (y - 1) + 3 + 2 * k).toNat ∧
    realEph.termDay (24 * (y - 1) + 3 + 2 * k).toNat ≤ jdn (y + 1) 1 1 + 36 := by
  obtain ⟨G, hG⟩ : ∃ G : Nat, (24 * (y - 1) + 3 + 2 * k).toNat = G := ⟨_, rfl⟩
  rw [hG]
  have egm : (24 * (y - 1) + 3 + (if k * 2 > 0 then k * 2 else 0)) = (G : Int) := by
    split <;> omega
  -- the Jie day lies between Lichun of y and Lichun of y + 1, inside the years y, y + 1
  obtain ⟨l1, l2⟩ := term_of_sc_year realEph_termFacts y (by omega) G (by omega) (by omega) (by omega)
  have l1 := l1 (by omega)
  have js := jan1_step (y + 1)
  have j1 : jdn 1 1 1 = 1721424 := jdn_0001_01_01
  have m1 := jdn_jan1_le 1 y (by omega)
  obtain ⟨tv, tj, ty1, ty2⟩ := jdn_year_range (realEph.termDay G) y (y + 1) (by omega) (by omega) (by omega) (by omega) (by omega)
  refine ⟨?_, by omega, by omega⟩
  -- the lunar date of the Jie day
  have tvv : Civil.valid (ofJdn (realEph.termDay G)).1 (ofJdn (realEph.termDay G)).2.1 (ofJdn (realEph.termDay G)).2.2 = true := tv
  obtain ⟨⟨x, kk⟩, hr, _, _, _, xe, _⟩ := C02_roundtrip_real _ _ _ tvv (Or.inr (Or.inr (Or.inr ⟨by omega, by omega⟩)))
  dsimp only at xe
  have tjj : jdn (ofJdn (realEph.termDay G)).1 (ofJdn (realEph.termDay G)).2.1 (ofJdn (realEph.termDay G)).2.2 = realEph.termDay G := tj
  rw [tjj] at xe
  have hp := dayPillar_eq (Lunar.first realEph x) kk
  have ep : (Lunar.first realEph x + kk - 12) % 60 = (realEph.termDay G + 49) % 60 := by omega
  rw [ep] at hp
  have hne : ¬ (realEph.termDay G = 0) := by omega
  have hd : cycNext ec.day (-((realEph.termDay G + 49) % 60)) = (ec.day - (realEph.termDay G + 49)) % 60 := by
    rw [cycNext_eq]; omega
  have hdr : 0 ≤ (ec.day - (realEph.termDay G + 49)) % 60 ∧ (ec.day - (realEph.termDay G + 49)) % 60 < 60 := by omega
  -- the moved day exists
  have j9 := jdn_9999
  have m9 := jdn_jan1_le (y + 1 + 1) 9999 (by omega)
  have hday : (if (ec.day - (realEph.termDay G + 49)) % 60 > 0 then dayNext (ofJdn (realEph.termDay G)) ((ec.day - (realEph.termDay G + 49)) % 60)
      else some (ofJdn (realEph.termDay G))) = some (ofJdn (realEph.termDay G + (ec.day - (realEph.termDay G + 49)) % 60)) := by
    split
    · exact (dayNext_iff _ _ _).2 ⟨by rw [tj]; unfold jdnFirst; omega, by rw [tj]; omega, by rw [tj]⟩
    · rw [show (ec.day - (realEph.termDay G + 49)) % 60 = 0 by omega, Int.add_zero]
  unfold candidatesAt
  have cG : ¬ ((G : Int) < 0) := by omega
  simp only [cG, if_false, egm, Int.toNat_natCast, hne, hr, hp, hd, hday]
  by_cases hc : (ofJdn (realEph.termDay G)).1 ≥ y0 - 1
  · rw [if_pos hc, if_pos hc]; rfl
  · simp only [hc, if_false]

theorem ecTime_ok (j ya yb hour mi s : Int) (hya : 1 ≤ ya) (hab : ya ≤ yb) (hyb : yb ≤ 9998) (h1 : jdn ya 1 1 ≤ j) (h2 : j < jdn (yb + 1) 1 1)
    (hh : 0 ≤ hour ∧ hour ≤ 23) (hm : 0 ≤ mi ∧ mi ≤ 59) (hs : 0 ≤ s ∧ s ≤ 59) :
    TimeOK (mkTime j hour mi s) ∧ ya ≤ (mkTime j hour mi s).1 ∧ (mkTime j hour mi s).1 ≤ yb ∧
      jdn (mkTime j hour mi s).1 (mkTime j hour mi s).2.1 (mkTime j hour mi s).2.2.1 = j := by
  obtain ⟨v, e, y1, y2⟩ := jdn_year_range j ya yb hya hab hyb h1 h2
  exact ⟨⟨v, hh, hm, hs⟩, y1, y2, e⟩

/-- every candidate of one step is a well-formed instant of AD 242..9997 -/
theorem candidatesAt_ok (ec : EightChar) (k : Int) (hk : 0 ≤ k ∧ k ≤ 11) (hours : List Int) (hh : ∀ x ∈ hours, 0 ≤ x ∧ x ≤ 23)
    (y0 y : Int) (hy : 242 ≤ y ∧ y ≤ 9995) :
    ∃ l, candidatesAt realEph ec (k * 2) hours y0 y = some l ∧ ∀ c ∈ l, TimeOK c ∧ 242 ≤ c.1 ∧ c.1 ≤ 9997 := by
  obtain ⟨e, b1, b2⟩ := candidatesAt_eq ec k hk hours y0 y hy
  refine ⟨_, e, fun c hc => ?_⟩
  have sb := termSod_bounds (24 * (y - 1) + 3 + 2 * k).toNat (by omega) (by omega)
  generalize (24 * (y - 1) + 3 + 2 * k).toNat = J at *
  generalize hd : realEph.termDay J + (ec.day - (realEph.termDay J + 49)) % 60 = d at *
  -- the Jie day lies in the years y, y + 1 and is moved by less than 60 days
  have key : ∀ hour mi s, hour ∈ hours → 0 ≤ mi ∧ mi ≤ 59 → 0 ≤ s ∧ s ≤ 59 →
      TimeOK (mkTime d hour mi s) ∧ 242 ≤ (mkTime d hour mi s).1 ∧ (mkTime d hour mi s).1 ≤ 9997 := by
    intro hour mi s hin hmi hs
    have js1 := jan1_step (y + 1)
    have js2 := jan1_step (y + 1 + 1)
    obtain ⟨o1, o2, o3, _⟩ := ecTime_ok d y (y + 2) hour mi s (by omega) (by omega) (by omega) (by omega)
      (by rw [show y + 2 + 1 = y + 1 + 1 + 1 by omega]; omega) (hh hour hin) hmi hs
    exact ⟨o1, by omega, by omega⟩
  split at hc
  · obtain ⟨hour, hin, rfl⟩ := List.mem_map.1 hc
    split
    · exact key _ _ _ hin (by omega) (by omega)
    · exact key _ _ _ hin (by omega) (by omega)
  · cases hc

/-- the candidate list of a search inside AD 243..9995 for characters whose month stem obeys Five Tigers: the search does not
refuse, every candidate is a well-formed instant, and every 60-year step from the year before the start year on whose year
has the wanted pillar contributes all its candidates -/
theorem candidates_real (ec : EightChar) (y0 y1 : Int) (hy0 : 243 ≤ y0) (hy1 : y1 ≤ 9995)
    (hstem : ((ec.year % 10 + 1) * 2 + (ec.month % 12 + 10) % 12) % 10 = ec.month % 10) :
    ∃ L, candidates realEph ec y0 y1 = some L ∧ (∀ c ∈ L, TimeOK c ∧ 242 ≤ c.1 ∧ c.1 ≤ 9997) ∧
      ∀ Y, y0 - 1 ≤ Y → Y ≤ y1 → (Y - 4) % 60 = ec.year →
        ∀ l, candidatesAt realEph ec ((ec.month % 12 + 10) % 12 * 2) (if ec.hour % 12 * 2 = 0 then [0, 23] else [ec.hour % 12 * 2])
          y0 Y = some l → ∀ c ∈ l, c ∈ L := by
  unfold candidates
  simp only [indexOf_12, indexOf_10, cycNext_eq, ceilDiv60]
  rw [show (ec.month % 12 - 2) % 12 = (ec.month % 12 + 10) % 12 by omega, if_neg (by rw [hstem]; exact fun h => h rfl),
    if_pos (show y0 - 1 > (ec.year + -57) % 60 + 1 by omega)]
  -- the first year of the stride at or after the year before the start year
  generalize hst : (ec.year + -57) % 60 + 1 + 60 * ((y0 - 1 - ((ec.year + -57) % 60 + 1) + 59) / 60) = ystart
  have hoursOK : ∀ x ∈ (if ec.hour % 12 * 2 = 0 then [0, 23] else [ec.hour % 12 * 2]), 0 ≤ x ∧ x ≤ 23 := by
    intro x hx
    split at hx <;> simp at hx <;> omega
  have hstep := fun (Y : Int) (h1 : ystart ≤ Y) (h2 : Y ≤ y1) =>
    candidatesAt_ok ec ((ec.month % 12 + 10) % 12) (by omega) _ hoursOK y0 Y ⟨by omega, by omega⟩
  obtain ⟨L, hL⟩ := loopYears_some realEph ec _ _ y0 y1 ((y1 - ystart) / 60 + 2).toNat ystart
    fun Y h1 h2 => (hstep Y h1 h2).imp fun _ h => h.1
  have hmem := mem_loopYears realEph ec _ _ y0 y1 _ ystart L hL
  refine ⟨L, hL, fun c hc => ?_, fun Y h1 h2 hY l hl c hc => (hmem c).2 ⟨Y, by omega, h2, by omega, by omega, l, hl, hc⟩⟩
  obtain ⟨Y, h1, h2, _, _, l, hl, hcl⟩ := (hmem c).1 hc
  obtain ⟨l', hl', hq⟩ := hstep Y h1 h2
  rw [hl] at hl'; cases hl'
  exact hq c hcl

/-- one step of the search reaches the pillar day P (at most 59 days after the step's Jie day) at the double-hour b — unless
the Jie instant itself falls on that day in that hour, when the candidate carries the Jie's minute and second instead -/
theorem candidatesAt_mem (ec : EightChar) (k : Int) (hk : 0 ≤ k ∧ k ≤ 11) (y0 y : Int) (hy : 242 ≤ y ∧ y ≤ 9995) (hy0 : y0 - 1 ≤ y)
    (P b : Int) (hP : 0 ≤ P - realEph.termDay (24 * (y - 1) + 3 + 2 * k).toNat ∧ P - realEph.termDay (24 * (y - 1) + 3 + 2 * k).toNat < 60)
    (hd : ec.day = (P + 49) % 60)
    (hns : ¬ (P - realEph.termDay (24 * (y - 1) + 3 + 2 * k).toNat = 0 ∧ 2 * b = realEph.termSod (24 * (y - 1) + 3 + 2 * k).toNat / 3600)) :
    ∃ l, candidatesAt realEph ec (k * 2) (if 2 * b = 0 then [0, 23] else [2 * b]) y0 y = some l ∧ mkTime P (2 * b) 0 0 ∈ l := by
  obtain ⟨ce, cb1, cb2⟩ := candidatesAt_eq ec k hk (if 2 * b = 0 then [0, 23] else [2 * b]) y0 y hy
  generalize (24 * (y - 1) + 3 + 2 * k).toNat = J at *
  refine ⟨_, ce, ?_⟩
  -- the Jie day lies in the years y, y + 1; the day offset the search computes is P − (Jie day)
  obtain ⟨_, _, tdy, _⟩ := jdn_year_range (realEph.termDay J) y (y + 1) (by omega) (by omega) (by omega) (by omega) (by
    have := jan1_step (y + 1); omega)
  rw [if_pos (by omega), show (ec.day - (realEph.termDay J + 49)) % 60 = P - realEph.termDay J by omega,
    show realEph.termDay J + (P - realEph.termDay J) = P by omega]
  refine List.mem_map.2 ⟨2 * b, ?_, if_neg hns⟩
  split
  · rename_i h; rw [h]; simp
  · simp

/-- an instant in cell g lies on the day of the Jie J = 2⌊(g−1)/2⌋+1 that opens its month or up to 32 days later (its
pillar day P up to 33) -/
theorem pillarDay_after_jie (g : Nat) (g1 : 1 ≤ g) (g2 : g + 1 ≤ 239977) (sec jt P : Int)
    (g3 : realEph.termSec g ≤ sec) (g4 : sec < realEph.termSec (g + 1))
    (hsj : 86400 * jt ≤ sec ∧ sec < 86400 * (jt + 1)) (hPj : jt ≤ P ∧ P ≤ jt + 1) :
    0 ≤ P - realEph.termDay (2 * ((g - 1) / 2) + 1) ∧ P - realEph.termDay (2 * ((g - 1) / 2) + 1) ≤ 33 := by
  generalize hJ : 2 * ((g - 1) / 2) + 1 = J
  have dJ := termSec_day J (by omega) (by omega)
  have leJ := termSec_le J g (by omega) (by omega) (by omega)
  have leJ2 := termSec_le (g + 1) (J + 2) (by omega) (by omega) (by omega)
  have dJ2 := termSec_day (J + 2) (by omega) (by omega)
  have sp := (term_span realEph_termFacts J (J + 2) (by omega) (by omega) (by omega)).2
  omega

/-- what the search computes from the characters of an instant in month m of the term line, double-hour b of pillar day P:
the month in the year m mod 12, the even hour 2b, a month stem that passes the Five-Tigers test, and a stride through the
year m div 12 + 1 -/
theorem search_params (ec : EightChar) (m P b : Int) (hb : 0 ≤ b ∧ b ≤ 11) (ay : ec.year = (m / 12 + 57) % 60)
    (am : ec.month = (m + 26) % 60) (ah : ec.hour = (12 * P + b + 48) % 60) :
    (ec.month % 12 + 10) % 12 = m % 12 ∧ ec.hour % 12 * 2 = 2 * b ∧
    ((ec.year % 10 + 1) * 2 + (ec.month % 12 + 10) % 12) % 10 = ec.month % 10 ∧ (m / 12 + 1 - 4) % 60 = ec.year := by
  refine ⟨by omega, by omega, by omega, by omega⟩

/-- COMPLETENESS of `EightChar::get_solar_times` on the current tree's data (searches inside AD 243..9995): if an instant t
of the searched range has the eight characters ec and no Jie instant falls inside t's double-hour, then the search
RETURNS (no refusal) and its result contains an instant of that same double-hour. Together with `C09_sound` (every
returned instant has the characters): the result meets every double-hour throughout which the characters hold. -/
theorem C09_complete_real (t : EC.Time) (ec : EightChar) (y0 y1 : Int) (ht : TimeOK t)
    (hy0 : 243 ≤ y0) (hy1 : y1 ≤ 9995) (h0 : y0 ≤ t.1) (h1 : t.1 ≤ y1)
    (hec : EC.ofTime realEph t = some ec)
    (hJ : ∀ g : Nat, g % 2 = 1 → ¬ (doubleHourStart t ≤ realEph.termSec g ∧ realEph.termSec g < doubleHourStart t + 7200)) :
    ∃ l r, solarTimes realEph ec y0 y1 = some l ∧ r ∈ l ∧ doubleHourStart r = doubleHourStart t := by
  obtain ⟨hvd, hh, hmi, hs⟩ := ht
  -- 1. the characters of t, from its cell g on the term line and its double-hour on the day line
  obtain ⟨v, hv, ey, em, ed, eh⟩ := C09_compose realEph t ec hec
  obtain ⟨g, g1, g2, gb1, gb2, g3, g4, ay, am, ad, ah⟩ := view_main t ⟨hvd, hh, hmi, hs⟩ (by omega) (by omega) v hv
  rw [← ey] at ay; rw [← em] at am; rw [← ed] at ad; rw [← eh] at ah
  unfold monthOrd at ay am
  obtain ⟨qt, wt1, wt2⟩ := doubleHourStart_eq t ⟨hvd, hh, hmi, hs⟩
  have yb := jdn_year_bounds t.1 t.2.1 t.2.2.1 hvd
  have hPj : jdn t.1 t.2.1 t.2.2.1 ≤ pillarDay t ∧ pillarDay t ≤ jdn t.1 t.2.1 t.2.2.1 + 1 := by unfold pillarDay; split <;> omega
  have hsj : 86400 * jdn t.1 t.2.1 t.2.2.1 ≤ secOf t ∧ secOf t < 86400 * (jdn t.1 t.2.1 t.2.2.1 + 1) := by unfold secOf; omega
  have hPJ := pillarDay_after_jie g g1 g2 (secOf t) _ _ g3 g4 hsj hPj
  clear hv ey em ed eh v hsj
  generalize pillarDay t = P at *
  generalize hb : (t.2.2.2.1 + 1) / 2 % 12 = b at *
  generalize jdn t.1 t.2.1 t.2.2.1 = jt at *
  -- 2. what the search computes from the characters: t lies in month m = ⌊(g−3)/2⌋ of the term line, month m mod 12 of the
  -- year m div 12 + 1, which the Jie J opens
  generalize hm : ((g : Int) - 3) / 2 = m at *
  obtain ⟨emon, ehour, hstem, hyear⟩ := search_params ec m P b (by omega) ay am ah
  clear am ah
  obtain ⟨J, hJ2⟩ : ∃ J : Nat, J = 2 * ((g - 1) / 2) + 1 := ⟨_, rfl⟩
  rw [← hJ2] at hPJ
  have hJm : (24 * (m / 12 + 1 - 1) + 3 + 2 * (m % 12)).toNat = J := by omega
  -- 3. the search's own candidate for t's double-hour: pillar day P at the even hour 2b
  obtain ⟨L, hL, hLok, hLmem⟩ := candidates_real ec y0 y1 hy0 hy1 hstem
  obtain ⟨l, hl, hrl⟩ := candidatesAt_mem ec (m % 12) (by omega) y0 (m / 12 + 1) (by omega) (by omega) P b
    (by rw [hJm]; omega) ad (by
      -- otherwise the Jie instant J would lie inside t's double-hour
      rw [hJm]
      intro hsp
      have esJ : realEph.termSec J = 86400 * realEph.termDay J + realEph.termSod J := rfl
      have := termSod_bounds J (by omega) (by omega)
      refine hJ J (by omega) ⟨?_, ?_⟩ <;> rw [qt] <;> omega)
  rw [emon, ehour] at hLmem
  have hrL := hLmem (m / 12 + 1) (by omega) (by omega) hyear l hl _ hrl
  -- 4. it is a well-formed instant of t's double-hour, so it has t's characters
  obtain ⟨rok, ry1, ry2⟩ := hLok _ hrL
  obtain ⟨rok', ry1', ry2', rj⟩ := ecTime_ok P t.1 (t.1 + 1) (2 * b) 0 0 (by omega) (by omega) (by omega) (by omega)
    (by have := jan1_step (t.1 + 1); omega) (by omega) (by omega) (by omega)
  have rdh : doubleHourStart (mkTime P (2 * b) 0 0) = doubleHourStart t := by
    obtain ⟨qr, _, _⟩ := doubleHourStart_eq _ rok
    have hpr : pillarDay (mkTime P (2 * b) 0 0) = P := by
      show jdn _ _ _ + (if 2 * b = 23 then 1 else 0) = P
      rw [rj, if_neg (by omega)]; omega
    have hbr : ((mkTime P (2 * b) 0 0).2.2.2.1 + 1) / 2 % 12 = b := by
      show (2 * b + 1) / 2 % 12 = b; omega
    rw [qr, qt, hpr, hbr]
  have hrec := ofTime_same_double_hour t _ ⟨hvd, hh, hmi, hs⟩ rok (by omega) (by omega) (by omega) (by omega) ec hec rdh hJ
  -- 5. the search returns, and keeps it
  obtain ⟨R, hR⟩ := solarTimes_some realEph ec y0 y1 L hL
    (fun c hc _ => ofTime_total_main c (hLok c hc).1 (by have := (hLok c hc).2; omega) (hLok c hc).2.2)
  exact ⟨R, _, hR, (mem_solarTimes realEph ec y0 y1 R hR _).2 ⟨L, hL, hrL, by omega, hrec⟩, rdh⟩

end Tyme

namespace Tyme
open EC Lunar
/-- The eight characters as the code reaches them from an instant (`SolarTime::get_lunar_hour().get_eight_char()`: civil
date → lunar date → civil date again → pillars of the instant) ARE the pillars of the instant, for every date on which the
lunar round trip is the identity — all years but the neighbourhoods of the five D4 junction years (C02_roundtrip_real). -/
theorem C09_via_lunar_real (t : EC.Time) (hv : Civil.valid t.1 t.2.1 t.2.2.1 = true)
    (hy : (1 ≤ t.1 ∧ t.1 ≤ 6) ∨ (10 ≤ t.1 ∧ t.1 ≤ 21) ∨ (26 ≤ t.1 ∧ t.1 ≤ 234) ∨ (241 ≤ t.1 ∧ t.1 ≤ 9997)) :
    ofTimeViaLunar realEph t = EC.ofTime realEph t := by
  obtain ⟨r, h1, _, _, _, _, h2, _⟩ := C02_roundtrip_real t.1 t.2.1 t.2.2.1 hv hy
  unfold ofTimeViaLunar
  rw [h1]
  obtain ⟨x, k⟩ := r
  dsimp only at h2 ⊢
  rw [h2]
end Tyme

namespace Tyme
open EC
/-- non-vacuity: 2024-02-10 14:30:00 is a well-formed instant of the range whose double-hour (13:00–15:00) holds no Jie -/
example : TimeOK ((2024, 2, 10, 14, 30, 0) : EC.Time) := by
  refine ⟨by decide, ?_, ?_, ?_⟩ <;> decide
end Tyme

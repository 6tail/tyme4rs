import Tyme.Facts.MonthsFact
import Tyme.Facts.Terms
import Tyme.Model.DeltaT
import Tyme.Gen.C05Dt
/-!
C05 — solar terms and new moons sit at the true Sun/Moon longitudes (PARTIAL; level `other`).
What a Lean theorem can carry here (`C05_*` obligations):
 (i)  calendar path = precise path from 1961 on — kernel-decided on the data re-extracted from /repo;
 (iv) TT−UT continuity — exact rational model of dt_calc over the table lifted from the source text.
What it cannot: (ii) agreement with an independent theory and (iii) inverse-solver residuals are statements about
f64 evaluations of ~3,000-coefficient trigonometric series; they are checked by an executable oracle
(Meeus low-precision Sun / full new-moon series in the driver; residuals in the harness), reported as supporting
evidence, never as obligations.
-/
namespace Tyme
open Packed DT

/-- (i) TABLE FACT: for all 192,938 terms of years 1961..10000 the calendar-making day is the UTC+8 civil day of the
precisely computed instant (the library reports an instant of the last half second of a day as 00:00:00 of the
next day — the only other case, two terms). -/
theorem C05_term_day_fact : allRec 72 termCalOK Gen.termsChunks = true := terms_cal_fact

theorem C05_term_day (g : Nat) (h1 : 47040 ≤ g) (h2 : g ≤ 239977) :
    realEph.qiDay g = realEph.termDay g ∨ (realEph.termDay g = realEph.qiDay g + 1 ∧ realEph.termSod g = 0) := by
  have := term_fact terms_cal_fact g (by omega)
  have hb : Nat.blt g 47040 = false := by rw [Bool.eq_false_iff, Ne, Nat.blt_eq]; omega
  simp only [termCalOK, hb, tDayRaw_ne_zero g (by omega) h2, Bool.false_or, Bool.or_eq_true, beq_iff_eq,
    Bool.and_eq_true] at this
  simp only [realEph]
  rcases this with h | ⟨h, h'⟩
  · left; rw [h]
  · right; exact ⟨by rw [h]; simp, by rw [h']; rfl⟩

/-- (i) TABLE FACT: for all 74,704 lunations of lunar years 1961..8000 the month's first day is the UTC+8 civil day
of the conjunction computed by the full-precision inverse solver (beyond ≈ AD 8000 the truncated calendar solver
leaves its guard band: 102 lunations of 8001..9999 differ by a day and are outside the claim). -/
theorem C05_shuo_day_fact : allRec 1024 yearShuoOK Gen.monthsChunks = true := years_shuo_fact

/-- (iv) segment joins: at each of the 22 joins of the TT−UT spline (incl. the hand-over to the final tabulated value)
the jump is at most 5 s (units 10^-4 s; the largest is 4.4 s at AD 900) -/
theorem C05_dt_joins : (joinJumps Gen.dtAt).length = 22 ∧ ∀ j ∈ joinJumps Gen.dtAt, -50000 ≤ j ∧ j ≤ 50000 := by decide +kernel

/-- (iv) the blend beyond the table is continuous at both ends: it starts at the last tabulated value and reaches
the pure extrapolation after 100 years — for ANY table end (y0, t0) -/
theorem C05_dt_blend_ends (ext0 ext100 t0 den : Int) :
    (ext0 * 100000 - (ext0 - t0 * den) * (0 + 100000)) = t0 * den * 100000 ∧
    (ext100 * 100000 - (ext0 - t0 * den) * (100000 - 100000)) = ext100 * 100000 := by
  constructor
  · have : (ext0 - t0 * den) * (0 + 100000) = ext0 * 100000 - t0 * den * 100000 := by
      rw [Int.zero_add, Int.sub_mul]
    omega
  · simp

/-- |a − b| ≤ B (units 10^-4 s) for fractions with positive denominators -/
def fracDiffLe (a b : Int × Int) (B : Int) : Bool :=
  decide (a.1 * b.2 - b.1 * a.2 ≤ B * (a.2 * b.2)) && decide (-(a.1 * b.2 - b.1 * a.2) ≤ B * (a.2 * b.2)) &&
  decide (0 < a.2) && decide (0 < b.2)

def yearlyOK (t : List Int) (B : Int) (lo : Int) : Nat → Bool
  | 0 => true
  | n+1 => fracDiffLe (dtCalc t ((lo + n + 1) * 1000)) (dtCalc t ((lo + n) * 1000)) B && yearlyOK t B lo n

/-- `yearlyOK` visiting each year once: the value at `lo + n` is handed on instead of being computed again -/
def yearlyGo (t : List Int) (B lo : Int) : Nat → Int × Int → Bool
  | 0, _ => true
  | n+1, v => fracDiffLe v (dtCalc t ((lo + n) * 1000)) B && yearlyGo t B lo n (dtCalc t ((lo + n) * 1000))

theorem yearlyGo_eq (t : List Int) (B lo : Int) :
    ∀ n, yearlyGo t B lo n (dtCalc t ((lo + n) * 1000)) = yearlyOK t B lo n
  | 0 => rfl
  | n+1 => by
    rw [yearlyGo, yearlyOK, ← yearlyGo_eq t B lo n, show (lo + ((n + 1 : Nat) : Int)) = lo + n + 1 by omega]

theorem yearlyOK_add (t : List Int) (B lo : Int) (k : Nat) :
    ∀ n, yearlyOK t B lo (k + n) = (yearlyOK t B (lo + k) n && yearlyOK t B lo k)
  | 0 => by simp [yearlyOK]
  | n+1 => by
    rw [← Nat.add_assoc, yearlyOK, yearlyOK, yearlyOK_add t B lo k n, Bool.and_assoc,
      show lo + ((k + n : Nat) : Int) = lo + k + n by omega]

/-- more than 100 years past the table `dt_calc` is the quadratic extrapolation alone -/
theorem dtCalc_ext {t : List Int} {y : Int} (h : (lastPair t).1 / 10 + 100000 < y) : dtCalc t y = (extNum y, extDen) := by
  unfold dtCalc
  simp only
  rw [if_pos (by omega), if_pos h]

/-- the extrapolation's yearly step grows linearly with the year; up to year 10000 it stays below 51 s -/
theorem ext_step (y : Int) (h0 : 1820000 ≤ y) (h1 : y + 1000 ≤ 10000000) :
    fracDiffLe (extNum (y + 1000), extDen) (extNum y, extDen) 510000 = true := by
  have key : extNum (y + 1000) = extNum y + 620000000 * (y - 1820000) + 310000000000 := by
    unfold extNum
    rw [show y + 1000 - 1820000 = (y - 1820000) + 1000 by omega, Int.mul_add 31, Int.mul_add, Int.add_mul, Int.add_mul]
    omega
  simp only [fracDiffLe, extDen, key, Bool.and_eq_true, decide_eq_true_eq]
  refine ⟨⟨⟨?_, ?_⟩, rfl⟩, rfl⟩ <;> omega

theorem yearlyOK_ext {t : List Int} {lo : Int} (hlo : (lastPair t).1 / 10 + 100000 < lo * 1000) (h0 : 1820 ≤ lo) :
    ∀ n : Nat, lo + n ≤ 10000 → yearlyOK t 510000 lo n = true
  | 0, _ => rfl
  | n+1, h => by
    rw [yearlyOK, yearlyOK_ext hlo h0 n (by omega), dtCalc_ext (by omega), dtCalc_ext (by omega),
      show (lo + n + 1) * 1000 = (lo + n) * 1000 + 1000 by omega, ext_step _ (by omega) (by omega)]
    rfl

/-- (iv) smoothness: TT−UT changes by at most 51 s between consecutive integer years over −4000..10000 (the
maximum is the quadratic extrapolation's slope at 10000), and by at most 2.4 s per year over 1700..2200
(exact rational evaluation of the year pairs −4000..2129 resp. 1700..2200, incl. every join and both blend ends; the
table ends at 2028, so from 2129 on the value is the quadratic alone: `yearlyOK_ext`) -/
theorem C05_dt_yearly : yearlyOK Gen.dtAt 510000 (-4000) 14000 = true ∧ yearlyOK Gen.dtAt 24000 1700 500 = true := by
  refine ⟨?_, ?_⟩
  · rw [show (14000 : Nat) = 6129 + 7871 from rfl, yearlyOK_add,
      yearlyOK_ext (by decide +kernel) (by decide) 7871 (by decide), ← yearlyGo_eq]
    decide +kernel
  · rw [← yearlyGo_eq]
    decide +kernel

/-- non-vacuity: TT−UT(2000) = 63.87 s and TT−UT(2028) = 72.6 s exactly -/
example : dtCalc Gen.dtAt 2000000 = (79837500000000000000, 125000000000000) ∧ (79837500000000000000 : Int) = 638700 * 125000000000000 ∧
    (dtCalc Gen.dtAt 2028000).1 = 726000 * (dtCalc Gen.dtAt 2028000).2 := by decide +kernel

end Tyme

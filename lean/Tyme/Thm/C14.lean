import Tyme.Lemmas.LunarWeekTotal
import Tyme.Thm.C02b
import Tyme.Spec.Week
/-!
C14 — weeks of a month: seven consecutive days, right start weekday, no day lost.
Helpers: `Tyme/Lemmas/Week.lean` (generic and civil), `LunarWeek.lean`, `LunarWeekTotal.lean` (lunar).

Model: `Tyme/Model/Week.lean` — generic week code over `MonthOps` (`weekCount`, `weekNew`, `firstJ`, `weekNext` with
its two border-correcting loops) and the civil instance (`civilOps`, `solarWeekNew`, `solarWeekFirstDay`,
`solarWeekDays`, `solarWeekNext`, `solarWeekIndexInYear`, `solarWeekOf`), tied to src/tyme/solar.rs by the
correspondence run.  `solarWeekOf` describes `SolarDay::get_solar_week` AFTER the repair
fixes/C14-week-oct1582.diff (defect D11); `solarWeekOfOld` is the unrepaired function.

Day numbers are `jdn` (C01: +1 per civil day, bijective with the dates 0001-01-01 .. 9999-12-31, weekday
`weekOfJdn`).  A week `w = ⟨(y, m), i, s⟩` has first-day number `firstJ civilOps w = jdn y m 1 + 7 i − off`.

The generic theorems `C14_gen_*` hold for ANY month type satisfying `Wk.Laws` (adjacent months are `len` days
apart, 8 ≤ len ≤ 36) — this is the form in which they apply to `LunarWeek` (same code over lunar months).
-/
namespace Tyme
open Wk

/-- a well-formed civil week: real month, start weekday 0..6, index below the week count -/
def SolarWeekOk (w : SolarWeek) : Prop := WeekOk civilOps civilOk w

/-- the first day of every week falls on the chosen start weekday -/
theorem C14_gen_first_weekday {M : Type} (O : MonthOps M) (w : Week M) (hs : 0 ≤ w.start ∧ w.start ≤ 6) :
    weekOfJdn (firstJ O w) = w.start := J_weekday O w.start w.month w.index hs

/-- successive weeks of a month start exactly 7 days apart -/
theorem C14_gen_spacing {M : Type} (O : MonthOps M) (m : M) (i s : Int) :
    firstJ O ⟨m, i + 1, s⟩ = firstJ O ⟨m, i, s⟩ + 7 := by
  unfold firstJ firstShift; dsimp only; omega

/-- the week count is exactly the number of start-aligned 7-day blocks that meet the month: index i is offered
iff the block `[firstJ i, firstJ i + 6]` meets `[first, first + len − 1]` -/
theorem C14_gen_count {M : Type} (O : MonthOps M) (m : M) (i s : Int) :
    (0 ≤ i ∧ i < weekCount O m s) ↔
      (firstJ O ⟨m, i, s⟩ ≤ O.first m + O.len m - 1 ∧ O.first m ≤ firstJ O ⟨m, i, s⟩ + 6) :=
  meets_iff O s m i

/-- no day lost: every day of the month lies in one of the offered weeks -/
theorem C14_gen_cover {M : Type} (O : MonthOps M) (m : M) (s j : Int)
    (h1 : O.first m ≤ j) (h2 : j < O.first m + O.len m) :
    ∃ i, 0 ≤ i ∧ i < weekCount O m s ∧ firstJ O ⟨m, i, s⟩ ≤ j ∧ j ≤ firstJ O ⟨m, i, s⟩ + 6 :=
  ⟨_, cover O s m j h1 h2⟩

/-- stepping by ANY n (the loops never run out of fuel): the result is a well-formed week with the same start
whose first day is exactly 7n days later; a refusal means the month sequence ended before the target week -/
theorem C14_gen_next_7n {M : Type} (O : MonthOps M) (ok : M → Prop) (L : Laws O ok) (w : Week M)
    (hw : WeekOk O ok w) (n : Int) :
    match weekNext O w n with
    | some w' => WeekOk O ok w' ∧ w'.start = w.start ∧ firstJ O w' = firstJ O w + 7 * n
    | none => (0 < n ∧ ∃ m', ok m' ∧ O.next m' = none ∧ O.first m' + O.len m' ≤ firstJ O w + 7 * n) ∨
              (n < 0 ∧ ∃ m', ok m' ∧ O.prev m' = none ∧ firstJ O w + 7 * n + 7 ≤ O.first m') :=
  weekNext_spec O ok L w hw n

/-! ## lunar half, abstract form: the same code over an abstract month sequence

`LunarMonth::get_week_count`, `LunarWeek::{new, get_first_day, next}` are the same text as the civil functions.
For ANY sequence of consecutive months k = lo..hi with first-day numbers `first k` and lengths `len k`
(29 or 30 for lunar months; anything in 8..36 is enough) such that `first (k+1) = first k + len k`: -/

theorem C14_lunar_laws (first len : Int → Int) (lo hi : Int)
    (hstep : ∀ k, lo ≤ k → k < hi → first (k + 1) = first k + len k)
    (hlen : ∀ k, lo ≤ k → k ≤ hi → 8 ≤ len k ∧ len k ≤ 36) :
    Laws (seqOps first len lo hi) (fun k => lo ≤ k ∧ k ≤ hi) where
  next_ok := fun m m' hm hn => by
    obtain ⟨h, rfl⟩ := (seq_next_iff first len lo hi m m').1 hn
    omega
  prev_ok := fun m m' hm hn => by
    obtain ⟨h, rfl⟩ := (seq_prev_iff first len lo hi m m').1 hn
    omega
  next_first := fun m m' hm hn => by
    obtain ⟨h, rfl⟩ := (seq_next_iff first len lo hi m m').1 hn
    exact hstep m hm.1 h
  prev_first := fun m m' hm hn => by
    obtain ⟨h, rfl⟩ := (seq_prev_iff first len lo hi m m').1 hn
    have := hstep (m - 1) (by omega) (by omega)
    rwa [show m - 1 + 1 = m by omega] at this
  len_lo := fun m hm => (hlen m hm.1 hm.2).1
  len_hi := fun m hm => (hlen m hm.1 hm.2).2

/-- stepping a lunar week by any n: 7n days, refused only past the ends of the month table -/
theorem C14_lunar_next_7n (first len : Int → Int) (lo hi : Int)
    (hstep : ∀ k, lo ≤ k → k < hi → first (k + 1) = first k + len k)
    (hlen : ∀ k, lo ≤ k → k ≤ hi → 8 ≤ len k ∧ len k ≤ 36)
    (w : Week Int) (hw : WeekOk (seqOps first len lo hi) (fun k => lo ≤ k ∧ k ≤ hi) w) (n : Int) :
    match weekNext (seqOps first len lo hi) w n with
    | some w' => WeekOk (seqOps first len lo hi) (fun k => lo ≤ k ∧ k ≤ hi) w' ∧ w'.start = w.start ∧
        firstJ (seqOps first len lo hi) w' = firstJ (seqOps first len lo hi) w + 7 * n
    | none => (0 < n ∧ first hi + len hi ≤ firstJ (seqOps first len lo hi) w + 7 * n) ∨
              (n < 0 ∧ firstJ (seqOps first len lo hi) w + 7 * n + 7 ≤ first lo) := by
  have := weekNext_ends _ _ (C14_lunar_laws first len lo hi hstep hlen) (first lo) (first hi + len hi)
    (fun m hm hn => by rw [(seq_ends first len lo hi m hm).1 hn]; rfl)
    (fun m hm hn => by rw [(seq_ends first len lo hi m hm).2 hn]; rfl) w hw n
  cases hn : weekNext (seqOps first len lo hi) w n with
  | some w' => exact this.1 w' hn
  | none => exact this.2 hn

/-- weekday of the first day, count and cover for lunar weeks are `C14_gen_first_weekday`, `C14_gen_count`,
`C14_gen_cover` at `O := seqOps first len lo hi` (no hypothesis on the sequence needed); restated for reference -/
theorem C14_lunar_weeks (first len : Int → Int) (lo hi k s : Int) (hs : 0 ≤ s ∧ s ≤ 6) :
    (∀ i, weekOfJdn (firstJ (seqOps first len lo hi) ⟨k, i, s⟩) = s) ∧
    (∀ i, (0 ≤ i ∧ i < weekCount (seqOps first len lo hi) k s) ↔
      (firstJ (seqOps first len lo hi) ⟨k, i, s⟩ ≤ first k + len k - 1 ∧
        first k ≤ firstJ (seqOps first len lo hi) ⟨k, i, s⟩ + 6)) ∧
    (∀ j, first k ≤ j → j < first k + len k → ∃ i, 0 ≤ i ∧ i < weekCount (seqOps first len lo hi) k s ∧
      firstJ (seqOps first len lo hi) ⟨k, i, s⟩ ≤ j ∧ j ≤ firstJ (seqOps first len lo hi) ⟨k, i, s⟩ + 6) :=
  ⟨fun i => C14_gen_first_weekday _ ⟨k, i, s⟩ hs, fun i => C14_gen_count _ k i s,
   fun j h1 h2 => C14_gen_cover _ k s j h1 h2⟩

/-- the civil months 0001-01 .. 9999-12 satisfy the laws (from C01: month length = distance of the firsts) -/
theorem C14_civil_laws : Laws civilOps civilOk := civilLaws


/-- `SolarWeek::new` accepts exactly: a real month, a start weekday 0..6 and an index below the week count
(the `index > 5` test is implied: a month never has more than 6 weeks) -/
theorem C14_new_iff (y m i s : Int) (w : SolarWeek) :
    solarWeekNew y m i s = some w ↔
      (w = ⟨(y, m), i, s⟩ ∧ civilOk (y, m) ∧ 0 ≤ s ∧ s ≤ 6 ∧ 0 ≤ i ∧ i < weekCount civilOps (y, m) s) := by
  constructor
  · intro h
    unfold solarWeekNew at h
    repeat' split at h
    iterate 4 cases h
    rename_i hok
    obtain ⟨a, b, _, d, e, f⟩ := (weekNew_iff civilOps (y, m) i s w).1 h
    exact ⟨a, (solarMonthOk_iff y m).1 (by simpa using hok), d, e, b, f⟩
  · rintro ⟨rfl, hok, hs0, hs6, hi0, hi1⟩
    have hb := weekCount_bounds civilOps (y, m) s (civilLaws.len_lo _ hok) (civilLaws.len_hi _ hok)
    have hm0 : 1 ≤ m := hok.2.2.1
    unfold solarWeekNew
    rw [if_neg (by omega), if_neg (by omega), if_neg (by omega), (solarMonthOk_iff y m).2 hok]
    exact (weekNew_iff civilOps (y, m) i s _).2 ⟨rfl, by omega⟩

/-- the week count is between 3 (October 1582, start Monday) and 6 and is exactly the number of start-aligned blocks meeting the month -/
theorem C14_count (y m i s : Int) :
    3 ≤ weekCount civilOps (y, m) s ∧ weekCount civilOps (y, m) s ≤ 6 ∧
    ((0 ≤ i ∧ i < weekCount civilOps (y, m) s) ↔
      (firstJ civilOps ⟨(y, m), i, s⟩ ≤ jdn y m 1 + monthLen y m - 1 ∧ jdn y m 1 ≤ firstJ civilOps ⟨(y, m), i, s⟩ + 6)) := by
  have hb := monthLen_bounds y m
  have e : civilOps.len (y, m) = monthLen y m := rfl
  refine ⟨?_, ?_, C14_gen_count civilOps (y, m) i s⟩
  · simp only [weekCount_eq, e]; omega
  · simp only [weekCount_eq, e]; omega

/-- `SolarMonth::get_weeks(start)` lists exactly the weeks 0, 1, …, count−1 of the month, in order -/
theorem C14_weeks_list (y m s : Int) (h : civilOk (y, m)) (hs : 0 ≤ s ∧ s ≤ 6) (l : List SolarWeek) :
    solarWeeks y m s = some l ↔
      (l.length = (weekCount civilOps (y, m) s).toNat ∧ ∀ (k : Nat) (hk : k < l.length), l[k] = ⟨(y, m), k, s⟩) := by
  have hc := C14_count y m 0 s
  unfold solarWeeks solarWeekCount
  have hok : (solarMonthOk y m && decide (0 ≤ s)) = true := by
    rw [Bool.and_eq_true, solarMonthOk_iff, decide_eq_true_eq]; exact ⟨h, hs.1⟩
  simp only [hok, if_true]
  rw [mapM_range_iff]
  simp only [C14_new_iff]
  exact ⟨fun ⟨h1, h2⟩ => ⟨h1, fun k hk => (h2 k hk).1⟩,
    fun ⟨h1, h2⟩ => ⟨h1, fun k hk => ⟨h2 k hk, h, hs.1, hs.2, by omega, by omega⟩⟩⟩

/-- the first day: its day number is `firstJ`, it falls on the start weekday, and `get_first_day` returns exactly
that date — it is refused only when that day lies before 0001-01-01 -/
theorem C14_first_weekday (w : SolarWeek) (hw : SolarWeekOk w) :
    weekOfJdn (firstJ civilOps w) = w.start ∧
    (∀ d, solarWeekFirstDay w = some d ↔ (jdnFirst ≤ firstJ civilOps w ∧ d = ofJdn (firstJ civilOps w))) ∧
    (jdnFirst ≤ firstJ civilOps w →
      Civil.validT (ofJdn (firstJ civilOps w)) = true ∧ jdnT (ofJdn (firstJ civilOps w)) = firstJ civilOps w) := by
  refine ⟨C14_gen_first_weekday civilOps w ⟨hw.2.1, hw.2.2.1⟩, fun d => solarWeekFirstDay_iff w hw d, ?_⟩
  intro h
  exact C01_jdn_ofJdn _ h (solarWeek_bounds w hw).2

/-- representability edge (D19): the only well-formed week whose first day is not a representable date is week 0
of 0001-01 with a start other than Saturday -/
theorem C14_first_edge (w : SolarWeek) (hw : SolarWeekOk w) :
    firstJ civilOps w < jdnFirst ↔ (w.month = (1, 1) ∧ w.index = 0 ∧ w.start ≠ 6) := by
  have hm := hw.meets
  obtain ⟨hok, hs0, hs6, hi0, hi1⟩ := hw
  cases hp : civilOps.prev w.month with
  | some m' =>
    -- a month that has a predecessor begins at least 8 days after 0001-01-01
    have := civilLaws.prev_first _ _ hok hp
    have := civilLaws.len_lo _ (civilLaws.prev_ok _ _ hok hp)
    have := civil_lo _ (civilLaws.prev_ok _ _ hok hp)
    constructor
    · intro; omega
    · intro h
      have : civilOps.first w.month = jdnFirst := by rw [h.1]; decide
      omega
  | none =>
    have e := civil_prev_none _ hok hp
    have : firstJ civilOps w = jdnFirst + (w.index * 7 - (weekOfJdn jdnFirst - w.start) % 7) := by
      unfold firstJ firstShift; rw [off_eq, e]; rfl
    rw [this]
    unfold weekOfJdn jdnFirst
    constructor
    · intro h; exact ⟨e, by omega, by omega⟩
    · rintro ⟨_, h0, h6⟩; omega

/-- seven consecutive days: `get_days` returns exactly the dates with day numbers firstJ, firstJ+1, …, firstJ+6;
it is refused only when one of them lies outside 0001-01-01 .. 9999-12-31 -/
theorem C14_days (w : SolarWeek) (hw : SolarWeekOk w) (l : List (Int × Int × Int)) :
    solarWeekDays w = some l ↔
      (jdnFirst ≤ firstJ civilOps w ∧ firstJ civilOps w + 6 ≤ jdnLast ∧ l.length = 7 ∧
        ∀ (k : Nat) (h : k < l.length), l[k] = ofJdn (firstJ civilOps w + k)) := by
  have hb := solarWeek_bounds w hw
  have hf := solarWeekFirstDay_iff w hw
  unfold solarWeekDays
  cases hd : solarWeekFirstDay w with
  | none =>
    simp only [reduceCtorEq, false_iff]
    intro h
    have := (hf _).2 ⟨h.1, rfl⟩
    rw [hd] at this; cases this
  | some d =>
    obtain ⟨a, rfl⟩ := (hf d).1 hd
    dsimp only
    rw [mapM_range_iff]
    simp only [dayNext_iff, (C01_jdn_ofJdn _ a hb.2).2]
    constructor
    · rintro ⟨h1, h2⟩
      have := h2 6 (by omega)
      exact ⟨a, by omega, h1, fun k hk => (h2 k hk).2.2⟩
    · rintro ⟨_, b, h1, h2⟩
      exact ⟨h1, fun k hk => ⟨by omega, by omega, h2 k hk⟩⟩

/-- …and those dates exist and have consecutive day numbers -/
theorem C14_days_consecutive (w : SolarWeek) (hw : SolarWeekOk w) (l : List (Int × Int × Int))
    (h : solarWeekDays w = some l) (k : Nat) (hk : k < l.length) :
    Civil.validT l[k] = true ∧ jdnT l[k] = firstJ civilOps w + k := by
  obtain ⟨a, b, c, d⟩ := (C14_days w hw l).1 h
  rw [d k hk]
  exact C01_jdn_ofJdn _ (by omega) (by omega)

/-- successive weeks start 7 days apart -/
theorem C14_spacing (y m i s : Int) :
    firstJ civilOps ⟨(y, m), i + 1, s⟩ = firstJ civilOps ⟨(y, m), i, s⟩ + 7 :=
  C14_gen_spacing civilOps (y, m) i s

/-- no day lost: every existing date of the month lies in one of the month's weeks -/
theorem C14_cover (y m d s : Int) (hv : Civil.valid y m d = true) :
    ∃ i, 0 ≤ i ∧ i < weekCount civilOps (y, m) s ∧
      firstJ civilOps ⟨(y, m), i, s⟩ ≤ jdn y m d ∧ jdn y m d ≤ firstJ civilOps ⟨(y, m), i, s⟩ + 6 := by
  have := jdn_in_month y m d hv
  exact C14_gen_cover civilOps (y, m) s (jdn y m d) this.1 this.2

/-- the week reported for a date contains that date (repaired `get_solar_week`): for EVERY existing date,
October 1582 included, and every start weekday -/
theorem C14_contains (y m d s : Int) (hv : Civil.valid y m d = true) (hs : 0 ≤ s ∧ s ≤ 6) :
    ∃ w, solarWeekOf y m d s = some w ∧ SolarWeekOk w ∧ w.month = (y, m) ∧ w.start = s ∧
      firstJ civilOps w ≤ jdn y m d ∧ jdn y m d ≤ firstJ civilOps w + 6 := by
  obtain ⟨h1, h2, h3, h4, _⟩ := (valid_iff y m d).1 hv
  have hok : civilOk (y, m) := ⟨h1, h2, h3, h4⟩
  have hd := jdn_in_month y m d hv
  have e1 : civilOps.first (y, m) = jdn y m 1 := rfl
  have hc := cover civilOps s (y, m) (jdn y m d) hd.1 hd.2
  rw [e1] at hc
  -- the code's index ceil7 (pos + o) − 1, pos = (day number − first) + 1, is the floor (j − first + off) / 7: the week that
  -- `cover` names
  have hidx : ceil7 (daySub (y, m, d) (y, m, 1) + 1 + indexOf (weekOfJdn (jdn y m 1) + -s) 7) - 1
      = (jdn y m d - jdn y m 1 + off civilOps (y, m) s) / 7 := by
    have e3 : weekOfJdn (jdn y m 1) + -s = weekOfJdn (civilOps.first (y, m)) - s := by rw [e1]; omega
    unfold ceil7 daySub off
    rw [e3]; dsimp only; omega
  refine ⟨⟨(y, m), (jdn y m d - jdn y m 1 + off civilOps (y, m) s) / 7, s⟩, ?_, ?_, rfl, rfl, hc.2.2.1, hc.2.2.2⟩
  · unfold solarWeekOf
    have : ¬ s < 0 := by omega
    simp only [this, if_false]
    rw [hidx, C14_new_iff]
    exact ⟨rfl, hok, hs.1, hs.2, hc.1, hc.2.1⟩
  · exact ⟨hok, hs.1, hs.2, hc.1, hc.2.1⟩

/-- defect D11 of the unrepaired code, kept as a checked fact about the OLD function: the week it reports for
1582-10-20 (start Sunday) begins on 1582-10-24, and 1582-10-31 is refused -/
theorem C14_D11_witness :
    (∃ w, solarWeekOfOld 1582 10 20 0 = some w ∧ jdn 1582 10 20 < firstJ civilOps w) ∧
    solarWeekOfOld 1582 10 31 0 = none ∧
    (∃ w, solarWeekOf 1582 10 20 0 = some w ∧ firstJ civilOps w = jdn 1582 10 17) ∧
    (∃ w, solarWeekOf 1582 10 31 0 = some w ∧ firstJ civilOps w = jdn 1582 10 31) := by
  refine ⟨⟨⟨(1582, 10), 2, 0⟩, by decide, by decide⟩, by decide, ⟨⟨(1582, 10), 1, 0⟩, by decide, by decide⟩,
    ⟨⟨(1582, 10), 3, 0⟩, by decide, by decide⟩⟩

/-- stepping a week by n moves its first day by exactly 7n — for ALL n and all weeks: whenever `next(n)` answers,
the answer is a well-formed week with the same start, 7n days away -/
theorem C14_next_7n (w : SolarWeek) (hw : SolarWeekOk w) (n : Int) (w' : SolarWeek) (h : solarWeekNext w n = some w') :
    SolarWeekOk w' ∧ w'.start = w.start ∧ firstJ civilOps w' = firstJ civilOps w + 7 * n :=
  (solarWeekNext_spec w hw n).1 w' h

/-- …and it answers exactly when the target week still meets the range 0001-01-01 .. 9999-12-31 (so the loops
never run out of fuel and the final re-validation never fails) -/
theorem C14_next_refused_iff (w : SolarWeek) (hw : SolarWeekOk w) (n : Int) :
    solarWeekNext w n = none ↔
      (jdnLast < firstJ civilOps w + 7 * n ∨ firstJ civilOps w + 7 * n + 6 < jdnFirst) := by
  have hb := solarWeek_bounds w hw
  have := solarWeekNext_spec w hw n
  unfold solarWeekNext
  cases hn : weekNext civilOps w n with
  | none =>
    have := this.2 hn
    simp only [true_iff]
    omega
  | some w' =>
    have hb' := solarWeek_bounds w' (this.1 w' hn).1
    have := (this.1 w' hn).2.2
    simp only [reduceCtorEq, false_iff]
    omega

/-! ## the executable specification used by the sweep says the same thing

`Tyme.WeekSpec` (Spec/Week.lean) defines weeks as maximal start-aligned 7-day blocks on ordinals
(ordinal = day number − 1721424).  Its count, first days and weekday are the model's, for every month start F,
length L and start weekday. -/

theorem C14_spec_agrees (F L s i : Int) :
    WeekSpec.weekday (F - 1721424) = weekOfJdn F ∧
    WeekSpec.blockCount s (F - 1721424) L = ceil7 ((weekOfJdn F - s) % 7 + L) ∧
    1721424 + WeekSpec.blockStart s (WeekSpec.firstBlock s (F - 1721424) + i)
      = F + (i * 7 - (weekOfJdn F - s) % 7) := by
  unfold WeekSpec.weekday WeekSpec.blockCount WeekSpec.lastBlock WeekSpec.firstBlock WeekSpec.block
    WeekSpec.blockStart weekOfJdn ceil7
  omega

/-- full-strength statement (FALSE on the unchanged code, see `C14_indexInYear_full_false`): for every
well-formed week, `get_index_in_year` answers k, and k counts weeks from week 0 of January of the same year,
which is the week containing January 1 -/
def C14_indexInYear_full : Prop :=
  ∀ (w : SolarWeek), SolarWeekOk w →
    firstJ civilOps ⟨(w.month.1, 1), 0, w.start⟩ ≤ jdn w.month.1 1 1 ∧
    jdn w.month.1 1 1 ≤ firstJ civilOps ⟨(w.month.1, 1), 0, w.start⟩ + 6 ∧
    ∃ k, solarWeekIndexInYear w = some k ∧ 0 ≤ k ∧ k ≤ 53 ∧
      firstJ civilOps w = firstJ civilOps ⟨(w.month.1, 1), 0, w.start⟩ + 7 * k

/-- proved part: the same statement for every week except those of year 0001 with a start other than Saturday
(known finding C14-idx-year1: there the code asks for the first day of the week containing 0001-01-01, which
begins in year 0, and panics) -/
theorem C14_indexInYear_partial (w : SolarWeek) (hw : SolarWeekOk w) (hx : ¬ (w.month.1 = 1 ∧ w.start ≠ 6)) :
    firstJ civilOps ⟨(w.month.1, 1), 0, w.start⟩ ≤ jdn w.month.1 1 1 ∧
    jdn w.month.1 1 1 ≤ firstJ civilOps ⟨(w.month.1, 1), 0, w.start⟩ + 6 ∧
    ∃ k, solarWeekIndexInYear w = some k ∧ 0 ≤ k ∧ k ≤ 53 ∧
      firstJ civilOps w = firstJ civilOps ⟨(w.month.1, 1), 0, w.start⟩ + 7 * k := by
  obtain ⟨⟨y, m⟩, i, s⟩ := w
  have hok : civilOk (y, m) := hw.1
  have hs : 0 ≤ s ∧ s ≤ 6 := ⟨hw.2.1, hw.2.2.1⟩
  obtain ⟨y1, y2, m1, m2⟩ := (civilOk_iff y m).1 hok
  dsimp only at hx ⊢
  -- week 0 of January: well formed, contains January 1, and (unless year 1, start ≠ Saturday) is representable
  have hok1 : civilOk (y, 1) := (civilOk_iff y 1).2 (by omega)
  have hw0 : SolarWeekOk ⟨(y, 1), 0, s⟩ :=
    ⟨hok1, hs.1, hs.2, Int.le_refl 0, by have := C14_count y 1 0 s; show (0 : Int) < weekCount civilOps (y, 1) s; omega⟩
  have hj0 : firstJ civilOps ⟨(y, 1), 0, s⟩ ≤ jdn y 1 1 := by
    have := off_range civilOps (y, 1) s
    show jdn y 1 1 + (0 * 7 - off civilOps (y, 1) s) ≤ _
    omega
  have hj6 : jdn y 1 1 ≤ firstJ civilOps ⟨(y, 1), 0, s⟩ + 6 := hw0.meets.2
  have hlo : jdnFirst ≤ firstJ civilOps ⟨(y, 1), 0, s⟩ := Int.not_lt.1 fun h =>
    have := (C14_first_edge _ hw0).1 h
    hx ⟨congrArg Prod.fst this.1, this.2.2⟩
  -- both first days fall on the start weekday, the month lies in the year: a whole number k ≤ 53 of weeks apart
  have hT : firstJ civilOps ⟨(y, m), i, s⟩ ≤ jdn y m 1 + monthLen y m - 1 ∧
      jdn y m 1 ≤ firstJ civilOps ⟨(y, m), i, s⟩ + 6 := hw.meets
  have hmy := jdn_month_in_year y m m1 m2
  have hyl := (jan1_step y).2
  have hwd0 := C14_gen_first_weekday civilOps ⟨(y, 1), 0, s⟩ hs
  have hwd := C14_gen_first_weekday civilOps ⟨(y, m), i, s⟩ hs
  unfold weekOfJdn at hwd0 hwd
  dsimp only at hwd0 hwd
  obtain ⟨k, hk⟩ : ∃ k : Nat, firstJ civilOps ⟨(y, 1), 0, s⟩ + 7 * k = firstJ civilOps ⟨(y, m), i, s⟩ :=
    ⟨((firstJ civilOps ⟨(y, m), i, s⟩ - firstJ civilOps ⟨(y, 1), 0, s⟩) / 7).toNat, by omega⟩
  refine ⟨hj0, hj6, k, ?_, by omega, by omega, hk.symm⟩
  unfold solarWeekIndexInYear
  rw [(solarWeekFirstDay_iff _ hw _).2 ⟨by omega, rfl⟩]
  dsimp only
  rw [(C14_new_iff y 1 0 s _).2 ⟨rfl, hw0⟩]
  dsimp only
  rw [idxLoop_spec _ (solarWeek_bounds _ hw).2 60 k _ 0 hw0 hlo hk (by omega), Int.zero_add]

/-- the excluded weeks are exactly the ones the code refuses: every week of year 0001 with a start ≠ Saturday -/
theorem C14_indexInYear_refused_year1 (w : SolarWeek) (hw : SolarWeekOk w) (hx : w.month.1 = 1 ∧ w.start ≠ 6) :
    solarWeekIndexInYear w = none := by
  -- week 0 of 0001-01 is accepted, but its first day lies before 0001-01-01 (`C14_first_edge`): the loop's first
  -- `get_first_day` is refused
  have hw0 : SolarWeekOk ⟨(1, 1), 0, w.start⟩ :=
    ⟨(civilOk_iff 1 1).2 (by decide), hw.2.1, hw.2.2.1, Int.le_refl 0,
      by have := C14_count 1 1 0 w.start; show (0 : Int) < weekCount civilOps (1, 1) w.start; omega⟩
  have hnone : solarWeekFirstDay ⟨(1, 1), 0, w.start⟩ = none := by
    cases h : solarWeekFirstDay ⟨(1, 1), 0, w.start⟩ with
    | none => rfl
    | some d =>
      exact absurd ((solarWeekFirstDay_iff _ hw0 d).1 h).1 (Int.not_le.2 ((C14_first_edge _ hw0).2 ⟨rfl, rfl, hx.2⟩))
  unfold solarWeekIndexInYear
  cases solarWeekFirstDay w with
  | none => rfl
  | some t =>
    dsimp only
    rw [hx.1, (C14_new_iff 1 1 0 w.start _).2 ⟨rfl, hw0⟩]
    dsimp only
    unfold idxLoop idxLoopG
    rw [hnone]

theorem C14_indexInYear_full_false : ¬ C14_indexInYear_full := by
  intro h
  have hw : SolarWeekOk ⟨(1, 3), 2, 0⟩ := by
    refine ⟨⟨by decide, by decide, by decide, by decide⟩, by decide, by decide, by decide, by decide⟩
  obtain ⟨_, _, k, hk, _⟩ := h ⟨(1, 3), 2, 0⟩ hw
  rw [C14_indexInYear_refused_year1 _ hw ⟨rfl, by decide⟩] at hk
  cases hk

example : SolarWeekOk ⟨(2024, 6), 5, 0⟩ ∧ weekCount civilOps (2024, 6) 0 = 6 ∧
    solarWeekNew 2024 6 5 0 = some ⟨(2024, 6), 5, 0⟩ ∧ solarWeekNew 2024 6 6 0 = none ∧
    solarWeekFirstDay ⟨(2024, 6), 0, 0⟩ = some (2024, 5, 26) ∧
    weekCount civilOps (1582, 10) 1 = 3 ∧ civilOk (1582, 10) := by
  refine ⟨⟨⟨by decide, by decide, by decide, by decide⟩, by decide, by decide, by decide, by decide⟩,
    by decide, by decide, by decide, by decide, by decide, ⟨by decide, by decide, by decide, by decide⟩⟩

example : solarWeekDays ⟨(1582, 10), 0, 0⟩ =
    some [(1582, 9, 30), (1582, 10, 1), (1582, 10, 2), (1582, 10, 3), (1582, 10, 4), (1582, 10, 15), (1582, 10, 16)] := by
  decide

example : solarWeekNext ⟨(2024, 6), 0, 0⟩ (-60) = some ⟨(2023, 4), 1, 0⟩ ∧
    solarWeekNext ⟨(2024, 5), 4, 0⟩ 1 = some ⟨(2024, 6), 1, 0⟩ ∧
    solarWeekNext ⟨(9999, 12), 4, 0⟩ 1 = none ∧ solarWeekNext ⟨(1, 1), 0, 0⟩ (-1) = none ∧
    solarWeekIndexInYear ⟨(2024, 6), 5, 0⟩ = some 26 ∧ Civil.valid 1582 10 20 = true := by
  refine ⟨by decide +kernel, by decide +kernel, by decide +kernel, by decide +kernel, by decide +kernel, by decide⟩

/-- a month sequence alternating 30 and 29 days meets the hypotheses of the `C14_lunar_*` theorems, and the
generic stepping code answers on it -/
example :
    let len : Int → Int := fun k => if k % 2 = 0 then 30 else 29
    let first : Int → Int := fun k => 2460000 + 59 * (k / 2) + (if k % 2 = 0 then 0 else 30)
    (∀ k, 0 ≤ k → k < 100 → first (k + 1) = first k + len k) ∧
    (∀ k, 0 ≤ k → k ≤ 100 → 8 ≤ len k ∧ len k ≤ 36) ∧
    weekNext (seqOps first len 0 100) ⟨3, 1, 0⟩ 10 = some ⟨5, 3, 0⟩ ∧
    weekNext (seqOps first len 0 100) ⟨3, 1, 0⟩ (-10) = some ⟨0, 4, 0⟩ ∧
    weekNext (seqOps first len 0 100) ⟨3, 1, 0⟩ (-20) = none := by
  refine ⟨?_, ?_, by decide +kernel, by decide +kernel, by decide +kernel⟩
  · intro k _ _; dsimp only; split <;> split <;> omega
  · intro k _ _; dsimp only; split <;> omega

/-! ## LUNAR HALF: `LunarMonth::get_week_count/get_weeks`, `LunarWeek::{new, get_first_day, get_days, next}` over the
extracted month table (`realEph`: re-extracted from /repo by tools/gen_eph.py on every run)

Model: `Tyme/Model/LunarWeek.lean` (`LWk.lunarWeekNew`, `lunarWeeks`, `lunarWeekFirstDay`, `lunarWeekDays`,
`lunarWeekNext`: the literal lunar code, whose weekday tests and day stepping go through the civil day and
`SolarDay::get_lunar_day`); `LWk.lunarOps E` is the lunar instance of the generic month type of `C14_gen_*`
(first day number, day count, `LunarMonth::next(±1)`), `LWk.lunarOpsOn E a b` the same with `next`/`prev` cut at the
ends of the interval of lunar years a..b.

Day number of the first day of week `w`: `firstJ (lunarOps realEph) w = first(month) + 7·index − off`.
The month table tiles (consecutive months abut, 29/30 days) on the lunar years 0..7, 9..22, 25..235, 237..238,
240..9998 (`realEph_tilesOn`); the years 8, 23, 24, 236, 239 are the D4 reform junctions (known findings).
The theorems about the literal code additionally need day 1 of every month to be a civil date of 0001..9999, which
fails for lunar year 0; hence `LunarGoodInterval`. -/
open LWk Lunar

/-- the intervals of lunar years on which the lunar-week theorems hold -/
def LunarGoodInterval (a b : Int) : Prop :=
  (a = 1 ∧ b = 7) ∨ (a = 9 ∧ b = 22) ∨ (a = 25 ∧ b = 235) ∨ (a = 237 ∧ b = 238) ∨ (a = 240 ∧ b = 9998)

/-- a well-formed lunar week of the interval: listed month of years a..b, start 0..6, index below the week count -/
def LunarWeekOk (a b : Int) (w : LunarWeek) : Prop := WeekOk (lunarOpsOn realEph a b) (okOn realEph a b) w

/-- the lunar months of the extracted table satisfy the month laws of the generic week theorems on every
tiling interval: `next(1)`/`next(-1)` give the adjacent month, whose first day is exactly `len` days away, and
8 ≤ len ≤ 36 (in fact 29 or 30).  Hence `C14_gen_next_7n` etc. apply to `lunarOpsOn realEph a b`. -/
theorem C14_lunar_real_laws :
    Laws (lunarOpsOn realEph 0 7) (okOn realEph 0 7) ∧ Laws (lunarOpsOn realEph 9 22) (okOn realEph 9 22) ∧
    Laws (lunarOpsOn realEph 25 235) (okOn realEph 25 235) ∧ Laws (lunarOpsOn realEph 237 238) (okOn realEph 237 238) ∧
    Laws (lunarOpsOn realEph 240 9998) (okOn realEph 240 9998) := by
  obtain ⟨t1, t2, t3, t4, t5⟩ := C02_good_intervals
  exact ⟨lunarLaws _ realEph_leap_le _ _ t1, lunarLaws _ realEph_leap_le _ _ t2, lunarLaws _ realEph_leap_le _ _ t3,
    lunarLaws _ realEph_leap_le _ _ t4, lunarLaws _ realEph_leap_le _ _ t5⟩

/-- EVERY interval of lunar years 1 ≤ a ≤ b ≤ 9998 that avoids the five D4 junction years is good: the table tiles there
(C02) and, the lunar new year falling between 5 days before and 59 days after January 1 (C13, kernel-checked over the
extracted table), every month begins on a civil date of 0001..9999 -/
theorem lunar_good_of_free (a b : Int) (ha : 1 ≤ a) (hab : a ≤ b) (hb : b ≤ 9998)
    (hfree : ∀ y : Int, a ≤ y → y ≤ b → y ≠ 8 ∧ y ≠ 23 ∧ y ≠ 24 ∧ y ≠ 236 ∧ y ≠ 239) : Good realEph a b :=
  good_of_tiles realEph realEph_leap_le realEph_newYearFacts C02_first_year_real a b ha hab (by omega)
    (realEph_tilesOn a b (by omega) hb hfree)

/-- the five maximal such intervals -/
theorem C14_lunar_real_good (a b : Int) (h : LunarGoodInterval a b) : Good realEph a b := by
  rcases h with ⟨rfl, rfl⟩ | ⟨rfl, rfl⟩ | ⟨rfl, rfl⟩ | ⟨rfl, rfl⟩ | ⟨rfl, rfl⟩ <;>
    exact lunar_good_of_free _ _ (by omega) (by omega) (by omega) fun y h1 h2 => by omega

/-- `LunarWeek::new` accepts exactly: a constructible lunar month, a start weekday 0..6 and an index 0..5 below the
week count (ALL arguments, any year) -/
theorem C14_lunar_real_new_iff (y m i s : Int) (w : LunarWeek) :
    lunarWeekNew realEph y m i s = some w ↔
      ∃ x, fromYm realEph y m = some x ∧ w = ⟨x, i, s⟩ ∧ 0 ≤ s ∧ s ≤ 6 ∧ 0 ≤ i ∧ i ≤ 5 ∧ i < monthWeekCount realEph x s :=
  lunarWeekNew_iff realEph y m i s w

/-- the week count is 5 or 6 and is exactly the number of start-aligned 7-day blocks that meet the month -/
theorem C14_lunar_real_count (a b : Int) (h : LunarGoodInterval a b) (x : Month) (hx : okOn realEph a b x) (s i : Int) :
    5 ≤ monthWeekCount realEph x s ∧ monthWeekCount realEph x s ≤ 6 ∧
    ((0 ≤ i ∧ i < monthWeekCount realEph x s) ↔
      (firstJ (lunarOps realEph) ⟨x, i, s⟩ ≤ Lunar.first realEph x + Lunar.len realEph x - 1 ∧
        Lunar.first realEph x ≤ firstJ (lunarOps realEph) ⟨x, i, s⟩ + 6)) := by
  have G := C14_lunar_real_good a b h
  have hb := monthWeekCount_bounds realEph x s (G.rep x hx).2.2
  exact ⟨hb.1, hb.2, C14_gen_count (lunarOps realEph) x i s⟩

/-- `LunarMonth::get_weeks(start)` lists exactly the weeks 0, 1, …, count−1 of the month, in order -/
theorem C14_lunar_real_weeks_list (a b : Int) (h : LunarGoodInterval a b) (y m s : Int) (x : Month)
    (hf : fromYm realEph y m = some x) (hx : okOn realEph a b x) (hs : 0 ≤ s ∧ s ≤ 6) (l : List LunarWeek) :
    lunarWeeks realEph y m s = some l ↔
      (l.length = (monthWeekCount realEph x s).toNat ∧ ∀ (k : Nat) (hk : k < l.length), l[k] = ⟨x, k, s⟩) :=
  lunarWeeks_iff realEph y m s x hf ((C14_lunar_real_good a b h).rep x hx).2.2 hs l

/-- the first day: the day number `firstJ` falls on the start weekday, and whatever `get_first_day` returns is the
lunar day (month of the interval, day 1..len) with exactly that day number, whose civil date is the date with that
day number — for every week whose first day lies in the interval and in the civil years a..b -/
theorem C14_lunar_real_first_day (a b : Int) (h : LunarGoodInterval a b) (w : LunarWeek) (hw : LunarWeekOk a b w)
    (hY : a ≤ (ofJdn (firstJ (lunarOps realEph) w)).1 ∧ (ofJdn (firstJ (lunarOps realEph) w)).1 ≤ b)
    (hlo : Lunar.first realEph ⟨a, 0⟩ ≤ firstJ (lunarOps realEph) w)
    (r : LDay) (hr : lunarWeekFirstDay realEph w = some r) :
    weekOfJdn (firstJ (lunarOps realEph) w) = w.start ∧
    okOn realEph a b r.1 ∧ 1 ≤ r.2 ∧ r.2 ≤ Lunar.len realEph r.1 ∧
    Lunar.first realEph r.1 + r.2 - 1 = firstJ (lunarOps realEph) w ∧
    daySolar realEph r.1 r.2 = some (ofJdn (firstJ (lunarOps realEph) w)) :=
  (lunarWeekFirstDay_total (C14_lunar_real_good a b h) w hw hY hlo).1 r hr

/-- seven consecutive days: whatever `get_days` returns is a list of 7 lunar days (month of the interval, day
1..len) with the day numbers firstJ, firstJ+1, …, firstJ+6 — for every week whose seven days lie in the interval
and in the civil years a..b -/
theorem C14_lunar_real_days (a b : Int) (h : LunarGoodInterval a b) (w : LunarWeek) (hw : LunarWeekOk a b w)
    (hY : ∀ k : Nat, k < 7 → a ≤ (ofJdn (firstJ (lunarOps realEph) w + k)).1 ∧ (ofJdn (firstJ (lunarOps realEph) w + k)).1 ≤ b)
    (hlo : Lunar.first realEph ⟨a, 0⟩ ≤ firstJ (lunarOps realEph) w)
    (hhi : firstJ (lunarOps realEph) w + 6 < Lunar.first realEph ⟨b + 1, 0⟩)
    (l : List LDay) (hl : lunarWeekDays realEph w = some l) :
    l.length = 7 ∧ ∀ (k : Nat) (hk : k < l.length),
      okOn realEph a b l[k].1 ∧ 1 ≤ l[k].2 ∧ l[k].2 ≤ Lunar.len realEph l[k].1 ∧
      Lunar.first realEph l[k].1 + l[k].2 - 1 = firstJ (lunarOps realEph) w + k :=
  (lunarWeekDays_total (C14_lunar_real_good a b h) w hw hY hlo hhi).1 l hl

/-- successive weeks start 7 days apart, and no day of the month is lost -/
theorem C14_lunar_real_spacing_cover (x : Month) (s : Int) :
    (∀ i, firstJ (lunarOps realEph) ⟨x, i + 1, s⟩ = firstJ (lunarOps realEph) ⟨x, i, s⟩ + 7) ∧
    (∀ j, Lunar.first realEph x ≤ j → j < Lunar.first realEph x + Lunar.len realEph x →
      ∃ i, 0 ≤ i ∧ i < monthWeekCount realEph x s ∧
        firstJ (lunarOps realEph) ⟨x, i, s⟩ ≤ j ∧ j ≤ firstJ (lunarOps realEph) ⟨x, i, s⟩ + 6) :=
  ⟨fun i => C14_gen_spacing (lunarOps realEph) x i s, fun j h1 h2 => C14_gen_cover (lunarOps realEph) x s j h1 h2⟩

/-- stepping a lunar week by ANY n: whenever the target week still meets the interval, `LunarWeek::next(n)`
ANSWERS (the loops never run out of fuel, no weekday test and no re-validation fails), and the answer is a
well-formed week of the interval with the same start whose first day is exactly 7n days later -/
theorem C14_lunar_real_next_7n (a b : Int) (h : LunarGoodInterval a b) (w : LunarWeek) (hw : LunarWeekOk a b w) (n : Int)
    (hlo : Lunar.first realEph ⟨a, 0⟩ ≤ firstJ (lunarOps realEph) w + 7 * n + 6)
    (hhi : firstJ (lunarOps realEph) w + 7 * n < Lunar.first realEph ⟨b + 1, 0⟩) :
    ∃ w', lunarWeekNext realEph w n = some w' ∧ LunarWeekOk a b w' ∧ w'.start = w.start ∧
      firstJ (lunarOps realEph) w' = firstJ (lunarOps realEph) w + 7 * n := by
  have G := C14_lunar_real_good a b h
  have hspec := G.weekNext w hw n
  cases hn : weekNext (lunarOpsOn realEph a b) w n with
  | some w' => exact ⟨w', lunarWeekNext_of G w hw n w' hn, hspec.1 w' hn⟩
  | none => have := hspec.2 hn; omega

/-- …conversely, whenever `next(n)` of the cut instance is refused the target week lies outside the interval
(so inside a good interval a refusal never happens) -/
theorem C14_lunar_real_next_refused (a b : Int) (h : LunarGoodInterval a b) (w : LunarWeek) (hw : LunarWeekOk a b w) (n : Int)
    (hn : weekNext (lunarOpsOn realEph a b) w n = none) :
    (0 < n ∧ Lunar.first realEph ⟨b + 1, 0⟩ ≤ firstJ (lunarOps realEph) w + 7 * n) ∨
    (n < 0 ∧ firstJ (lunarOps realEph) w + 7 * n + 7 ≤ Lunar.first realEph ⟨a, 0⟩) :=
  ((C14_lunar_real_good a b h).weekNext w hw n).2 hn

/-- full-strength statement of the first-day clause over ALL lunar years (FALSE on the unchanged code at the D4
junctions, see `C14_lunar_real_first_day_full_false`; `C14_lunar_real_first_day` is the proved part) -/
def C14_lunar_real_first_day_full : Prop :=
  ∀ (w : LunarWeek) (r : LDay), WF realEph w.month → 0 ≤ w.start ∧ w.start ≤ 6 →
    0 ≤ w.index ∧ w.index < monthWeekCount realEph w.month w.start →
    lunarWeekFirstDay realEph w = some r → Lunar.first realEph r.1 + r.2 - 1 = firstJ (lunarOps realEph) w

/-- D4 witness (known finding D4-c14-ad9-weeks): week 0 (start Sunday) of lunar month 8-12 begins on day number
1724358, but `get_first_day` answers the lunar day 8-12-29, whose day number is 1724388 (the lunar months 8-12 and
9-1 of the table are the same lunation) -/
theorem C14_lunar_real_first_day_full_false : ¬ C14_lunar_real_first_day_full := by
  intro hfull
  have h1 : lunarWeekFirstDay realEph ⟨⟨8, 12⟩, 0, 0⟩ = some (⟨8, 12⟩, 29) := by decide +kernel
  have h2 : WF realEph ⟨8, 12⟩ := by
    refine ⟨by decide, by decide, ?_⟩
    show 12 < realEph.cnt 8
    decide +kernel
  have h3 : monthWeekCount realEph ⟨8, 12⟩ 0 = 5 ∧ Lunar.first realEph ⟨8, 12⟩ = 1724360 ∧
      firstJ (lunarOps realEph) ⟨⟨8, 12⟩, 0, 0⟩ = 1724358 := by decide +kernel
  have := hfull ⟨⟨8, 12⟩, 0, 0⟩ (⟨8, 12⟩, 29) h2 ⟨by decide, by decide⟩ ⟨by decide, by rw [h3.1]; decide⟩ h1
  rw [h3.2.2] at this
  dsimp only at this
  rw [h3.2.1] at this
  omega

example : LunarGoodInterval 240 9998 ∧ LunarWeekOk 240 9998 ⟨⟨2024, 0⟩, 0, 0⟩ ∧
    lunarWeekNew realEph 2024 1 0 0 = some ⟨⟨2024, 0⟩, 0, 0⟩ ∧ monthWeekCount realEph ⟨2024, 0⟩ 0 = 5 ∧
    lunarWeekFirstDay realEph ⟨⟨2024, 0⟩, 0, 0⟩ = some (⟨2023, 12⟩, 25) ∧
    daySolar realEph ⟨2023, 12⟩ 25 = some (2024, 2, 4) ∧
    lunarWeekNext realEph ⟨⟨2024, 0⟩, 0, 0⟩ 10 = some ⟨⟨2024, 2⟩, 1, 0⟩ ∧
    lunarWeekNext realEph ⟨⟨2024, 0⟩, 0, 0⟩ (-60) = some ⟨⟨2022, 10⟩, 3, 0⟩ := by
  refine ⟨Or.inr (Or.inr (Or.inr (Or.inr ⟨rfl, rfl⟩))), ?_, ?_⟩
  · refine ⟨⟨⟨by decide, by decide, ?_⟩, by decide, by decide⟩, by decide, by decide, by decide, ?_⟩
    · show 0 < realEph.cnt 2024
      have := cnt_cases realEph 2024
      omega
    · show (0 : Int) < monthWeekCount realEph ⟨2024, 0⟩ 0
      rw [realEph_eq_quick]; decide +kernel
  · rw [realEph_eq_quick]; decide +kernel

/-- the listed days of a week that runs from a leap month into the next month -/
example : (lunarWeekDays realEph ⟨⟨2023, 2⟩, 4, 1⟩).map (fun l => l.map fun d => (d.1.y, monthWithLeap realEph d.1, d.2)) =
    some [(2023, -2, 27), (2023, -2, 28), (2023, -2, 29), (2023, 3, 1), (2023, 3, 2), (2023, 3, 3), (2023, 3, 4)] := by
  rw [realEph_eq_quick]; decide +kernel

end Tyme

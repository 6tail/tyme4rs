import Tyme.Lemmas.LunarWalk
import Tyme.Facts.Months
import Tyme.Thm.C01
/-!
C02 — solar ⇔ lunar conversion is an order-preserving bijection. The property theorems are the `C02_*`; the file also
holds the tiling of the extracted table (`realEph_tilesOn`, `realEph_tiles_around`) and the inversion lemmas of the day
constructors (`daySolar_eq_some`, `dayNew_eq_some`).

Generic theorems hold for ANY ephemeris `E` on ANY interval of lunar years [a,b] on which the month table
tiles (`TilesOn E a b`); `realEph_tilesOn` gives the hypothesis for the data re-extracted from /repo on every interval
free of the five D4 reform junction years 8, 23, 24, 236, 239 (listed as known findings with the exact failing dates),
`C02_good_intervals` names the five maximal ones, 0..7, 9..22, 25..235, 237..238, 240..9998.
Model: `Lunar.ofSolar` (= SolarDay::get_lunar_day incl. the D3 forward walk), `Lunar.dayNew`, `Lunar.daySolar`,
`Lunar.dayBefore/After` (after D5).
-/
namespace Tyme
open Lunar

/-- the tiling hypothesis holds for the current tree's data on every interval of lunar years free of the five D4
junction years — in particular on the local interval [Y − m, Y + n] around a year, which is all a `_real` theorem needs -/
theorem realEph_tilesOn (a b : Int) (ha : 0 ≤ a) (hb : b ≤ 9998)
    (h : ∀ y, a ≤ y → y ≤ b → y ≠ 8 ∧ y ≠ 23 ∧ y ≠ 24 ∧ y ≠ 236 ∧ y ≠ 239) : TilesOn realEph a b := by
  intro y h1 h2
  have e : y = ((y.toNat : Nat) : Int) := by omega
  rw [e]
  refine realEph_tiles y.toNat (by omega) ?_
  have := h y h1 h2
  simp only [badYear, Bool.or_eq_false_iff, beq_eq_false_iff_ne, ne_eq]
  omega

theorem realEph_tiles_around (Y : Int)
    (hy : (1 ≤ Y ∧ Y ≤ 6) ∨ (10 ≤ Y ∧ Y ≤ 21) ∨ (26 ≤ Y ∧ Y ≤ 234) ∨ (241 ≤ Y ∧ Y ≤ 9997)) : TilesOn realEph (Y - 1) (Y + 1) :=
  realEph_tilesOn _ _ (by omega) (by omega) (fun z _ _ => by omega)

theorem C02_good_intervals :
    TilesOn realEph (0 : Nat) (7 : Nat) ∧ TilesOn realEph (9 : Nat) (22 : Nat) ∧ TilesOn realEph (25 : Nat) (235 : Nat) ∧
    TilesOn realEph (237 : Nat) (238 : Nat) ∧ TilesOn realEph (240 : Nat) (9998 : Nat) :=
  ⟨realEph_tilesOn _ _ (by omega) (by omega) fun y _ _ => by omega,
   realEph_tilesOn _ _ (by omega) (by omega) fun y _ _ => by omega,
   realEph_tilesOn _ _ (by omega) (by omega) fun y _ _ => by omega,
   realEph_tilesOn _ _ (by omega) (by omega) fun y _ _ => by omega,
   realEph_tilesOn _ _ (by omega) (by omega) fun y _ _ => by omega⟩

theorem daySolar_eq_some (E : Eph) (x : Month) (k Y M D : Int) :
    daySolar E x k = some (Y, M, D) ↔ Civil.valid Y M D = true ∧ jdn Y M D = first E x + k - 1 :=
  (ofJdn_guard_iff _ _).trans (eq_ofJdn_iff _ _)

theorem dayNew_eq_some {E : Eph} {y m d : Int} {p : Month × Int} (h : dayNew E y m d = some p) :
    fromYm E y m = some p.1 ∧ p.2 = d := by
  unfold dayNew at h
  cases hx : fromYm E y m with
  | none => rw [hx] at h; cases h
  | some x =>
    rw [hx] at h
    dsimp only at h
    split at h
    · cases h
    · cases h; exact ⟨rfl, rfl⟩

/-- get_lunar_day returns the month that contains the day, and the day's position in it. -/
theorem C02_walk_spec (E : Eph) (hl : ∀ y, E.leap y ≤ 12) (a b : Int) (ht : TilesOn E a b) (Y M D : Int)
    (hY : a ≤ Y) (hY2 : Y ≤ b) (hlo : first E ⟨a, 0⟩ ≤ jdn Y M D) (hhi : jdn Y M D < first E ⟨b + 1, 0⟩)
    (r : Month × Int) (h : ofSolar E Y M D = some r) :
    WF E r.1 ∧ a ≤ r.1.y ∧ r.1.y ≤ b ∧ first E r.1 + r.2 - 1 = jdn Y M D ∧ 1 ≤ r.2 ∧ r.2 ≤ len E r.1 :=
  ofSolar_spec E hl a b ht Y M D hY hY2 hlo hhi r h

/-- solar → lunar → solar is the identity (every civil date whose conversion is accepted, inside a tiling interval). -/
theorem C02_sls (E : Eph) (hl : ∀ y, E.leap y ≤ 12) (a b : Int) (ht : TilesOn E a b) (Y M D : Int)
    (hv : Civil.valid Y M D = true)
    (hY : a ≤ Y) (hY2 : Y ≤ b) (hlo : first E ⟨a, 0⟩ ≤ jdn Y M D) (hhi : jdn Y M D < first E ⟨b + 1, 0⟩)
    (r : Month × Int) (h : ofSolar E Y M D = some r) :
    daySolar E r.1 r.2 = some (Y, M, D) ∧ dayNew E r.1.y (monthWithLeap E r.1) r.2 = some r := by
  obtain ⟨w, a1, b1, e, k1, k2⟩ := ofSolar_spec E hl a b ht Y M D hY hY2 hlo hhi r h
  exact ⟨(daySolar_eq_some E r.1 r.2 Y M D).2 ⟨hv, e.symm⟩, dayNew_mwl E hl r.1 w r.2 k1 k2⟩

/-- lunar → solar → lunar is the identity (every accepted lunar date inside a tiling interval whose civil year
also lies in the interval). -/
theorem C02_lsl (E : Eph) (hl : ∀ y, E.leap y ≤ 12) (a b : Int) (ha0 : 0 ≤ a) (hb9 : b + 1 ≤ 9999) (ht : TilesOn E a b)
    (x : Month) (k : Int) (hx : WF E x) (hxa : a ≤ x.y) (hxb : x.y ≤ b) (hk1 : 1 ≤ k) (hk2 : k ≤ len E x)
    (Y M D : Int) (hd : daySolar E x k = some (Y, M, D)) (hY : a ≤ Y) (hY2 : Y ≤ b)
    (hj1 : jdnFirst ≤ first E x + k - 1) (hj2 : first E x + k - 1 ≤ jdnLast)
    (r : Month × Int) (h : ofSolar E Y M D = some r) : r = (x, k) := by
  have hjd := ((daySolar_eq_some E x k Y M D).1 hd).2
  obtain ⟨hlo, hhi⟩ := interval_bounds ht ⟨hx, hxa, hxb⟩
  obtain ⟨w, a1, b1, e, k1, k2⟩ := ofSolar_spec E hl a b ht Y M D hY hY2 (by omega) (by omega) r h
  have hu := month_unique ht ⟨w, a1, b1⟩ ⟨hx, hxa, hxb⟩ (jdn Y M D) (by omega) (by omega) (by omega) (by omega)
  obtain ⟨r1, r2⟩ := r
  dsimp only at hu e
  subst hu
  congr 1; omega


/-- Consecutive civil days map to consecutive lunar days: day+1 in the same month, or day 1 of the
following month (the successor in the listing) exactly when the month is over. -/
theorem C02_succ (E : Eph) (hl : ∀ y, E.leap y ≤ 12) (a b : Int) (hb9 : b + 1 ≤ 9999) (ht : TilesOn E a b)
    (j : Int) (x x' : Month) (k k' : Int)
    (hx : WF E x) (hxa : a ≤ x.y) (hxb : x.y ≤ b) (hk : first E x + k - 1 = j) (hk1 : 1 ≤ k) (hk2 : k ≤ len E x)
    (hx' : WF E x') (hxa' : a ≤ x'.y) (hxb' : x'.y ≤ b) (hk' : first E x' + k' - 1 = j + 1) (hk1' : 1 ≤ k') (hk2' : k' ≤ len E x') :
    (x' = x ∧ k' = k + 1) ∨ (x' = succM E x ∧ k' = 1 ∧ k = len E x) := by
  have hts := LWk.okOn.step ht ⟨hx, hxa, hxb⟩
  by_cases hin : k < len E x
  · left
    have := month_unique ht ⟨hx', hxa', hxb'⟩ ⟨hx, hxa, hxb⟩ (j + 1) (by omega) (by omega) (by omega) (by omega)
    subst this
    exact ⟨rfl, by omega⟩
  · right
    -- the successor of x begins on day j + 1: x' is that month, unless the successor lies beyond the interval
    rcases succM_on ⟨hx, hxa, hxb⟩ (WF_succM E x hx (Or.inr (by omega))) with hs | hs
    · have := (hs.step ht).2
      have := month_unique ht ⟨hx', hxa', hxb'⟩ hs (j + 1) (by omega) (by omega) (by omega) (by omega)
      subst this
      exact ⟨rfl, by omega, by omega⟩
    · have := (interval_bounds ht ⟨hx', hxa', hxb'⟩).2
      rw [hs] at hts; omega

/-- Lunar order = chronological order (day numbers), for all pairs inside a tiling interval. -/
theorem C02_order (E : Eph) (a b : Int) (hb9 : b + 1 ≤ 9999) (ht : TilesOn E a b) (p q : Month × Int)
    (hp : WF E p.1) (hq : WF E q.1) (hpa : a ≤ p.1.y) (hpb : p.1.y ≤ b) (hqa : a ≤ q.1.y) (hqb : q.1.y ≤ b)
    (hp1 : 1 ≤ p.2) (hp2 : p.2 ≤ len E p.1) (hq1 : 1 ≤ q.2) (hq2 : q.2 ≤ len E q.1) :
    lunarLt E p q ↔ first E p.1 + p.2 - 1 < first E q.1 + q.2 - 1 :=
  lunarLt_iff_jdn ht ⟨hp, hpa, hpb⟩ ⟨hq, hqa, hqb⟩ hp1 hp2 hq1 hq2

/-- `LunarDay::is_before` (year, then |month| with the regular month before its leap twin, then day)
is exactly the listing order — any ephemeris, any two accepted lunar dates. -/
theorem C02_before_iff (E : Eph) (hl : ∀ y, E.leap y ≤ 12) (y m d y' m' d' : Int) (p q : Month × Int)
    (hp : dayNew E y m d = some p) (hq : dayNew E y' m' d' = some q) :
    Lunar.dayBefore (y, m, d) (y', m', d') = true ↔ lunarLt E p q := by
  obtain ⟨x, d0⟩ := p
  obtain ⟨x', d0'⟩ := q
  obtain ⟨hx, rfl⟩ := dayNew_eq_some hp
  obtain ⟨hx', rfl⟩ := dayNew_eq_some hq
  have w := (fromYm_WF E hl hx).1
  have w' := (fromYm_WF E hl hx').1
  obtain ⟨_, _, m0, _, _, m3, rfl⟩ := fromYm_eq_some hx
  obtain ⟨_, _, m0', _, _, m3', rfl⟩ := fromYm_eq_some hx'
  unfold lunarLt
  rw [gpos_lt_iff E w w']
  unfold Month.lt Lunar.dayBefore
  simp only [Month.mk.injEq]
  by_cases hyy : y = y'
  · subst hyy
    have k1 := idxOf_lt_iff (E.leap y) m m' m0 m0' m3 m3'
    have k2 := idxOf_lt_iff (E.leap y) m' m m0' m0 m3' m3
    by_cases hmm : m = m'
    · subst hmm
      simp only [ne_eq, not_true_eq_false, if_false, decide_eq_true_eq, Int.lt_irrefl, Nat.lt_irrefl, and_false,
        false_or, and_self, true_and]
    · simp only [ne_eq, not_true_eq_false, if_false, hmm, not_false_eq_true, if_true, Int.lt_irrefl, false_or, true_and]
      split <;> (simp only [decide_eq_true_eq]; omega)
  · simp only [ne_eq, hyy, not_false_eq_true, if_true, decide_eq_true_eq, false_and, or_false]

end Tyme

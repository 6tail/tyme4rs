import Tyme.Spec.Classical
import Tyme.Model.Attr
/-
C19 — stem and branch attributes match the classical correspondence rules (static part).

The table facts `C19_<family>` (extension of each getter, re-extracted from the code on every run = the
first-principles table, decided by the kernel on the complete domain) are in Tyme/Facts/C19.lean.  This file
holds what does not depend on generated data:

* the hand-written model of the code (Model/Attr.lean — the literal arrays and the index arithmetic of
  the Rust getters; for the own and the body sign the month / hour count is written `m := mb − 1; if m < 1 then m + 12`
  as in fixes/C19-own-body-sign.agent.diff, where src/tyme/eightchar/mod.rs has `(idx + 10) % 12 + 1` resp.
  `(m + h + 11) % 12`: the same numbers on all 12 × 12 branch pairs, another spelling) agrees with the specification
  (Spec/Classical.lean) on the whole domain of every family, and the own/body sign for ARBITRARY pillars;
* on the specification, the involution / inverse-pair / structure facts that the meaning of the relations
  requires (clash, combinations, harm, generating and overcoming cycles, ten gods, growth stages, hidden stems,
  decades and void branches, Nayin, mansions, zodiac signs, foetus spirit, eight-character signs).

All quantifiers range over finite index sets; a statement with no other proof is decided by kernel evaluation —
complete enumeration. The own / body sign go through the palace offset (`Attr.signAt`) and 五虎遁 (`monthPillarIn`).
Own sign / body sign (D23): the model is that of the REPAIRED code (fixes/C19-own-body-sign.diff).
-/
namespace Tyme
open Tyme.Classical

def isSomeAnd (o : Option Nat) (P : Nat → Prop) : Prop := ∃ x, o = some x ∧ P x

instance (o : Option Nat) (P : Nat → Prop) [DecidablePred P] : Decidable (isSomeAnd o P) :=
  match o with
  | none => isFalse (by intro ⟨x, h, _⟩; cases h)
  | some x => if h : P x then isTrue ⟨x, rfl, h⟩ else isFalse (by intro ⟨y, hy, hp⟩; cases hy; exact h hp)

/-! ## The model of the code equals the specification on the whole domain (static) -/

/-- the code's own / body sign at palace offset `o` (0 = 寅): stem `(year stem + 1) * 2 + o`, branch `2 + o` -/
def Attr.signAt (ys : Nat) (o : Int) : Option Nat :=
  Attr.pillarNamed (Attr.indexOf (((ys : Int) + 1) * 2 + o) 10) (Attr.indexOf (2 + o) 12)

/-- the palace offset inside `Attr.ownSign`, from month and hour branch (`Attr.ownSign` is `signAt` of it, by `rfl`) -/
def Attr.ownOffset (mb hb : Nat) : Int :=
  let m : Int := (mb : Int) - 1
  let m := if m < 1 then m + 12 else m
  let h : Int := (hb : Int) - 1
  let h := if h < 1 then h + 12 else h
  let offset := m + h
  (if offset ≥ 14 then 26 else 14) - offset - 1

/-- the palace offset inside `Attr.bodySign` -/
def Attr.bodyOffset (mb hb : Nat) : Int :=
  let offset : Int := (mb : Int) - 1
  let offset := if offset < 1 then offset + 12 else offset
  let offset := offset + (hb : Int) + 1
  let offset := if offset > 12 then offset - 12 else offset
  offset - 1

/-- 五虎遁 in the code's arithmetic: offset `o` from 寅 gives the year's month pillar on branch `2 + o` -/
theorem signAt_monthPillar : ∀ ys < 10, ∀ o < 12, Attr.signAt ys (o : Nat) = monthPillarIn ys ((2 + o) % 12) := by decide +kernel

/-- the code's offsets are the palaces of the hand method, counted from 寅 -/
theorem sign_offsets : ∀ mb < 12, ∀ hb < 12,
    (∃ o < 12, Attr.ownOffset mb hb = (o : Nat) ∧ (2 + o) % 12 = ownSignBranch mb hb) ∧
    (∃ o < 12, Attr.bodyOffset mb hb = (o : Nat) ∧ (2 + o) % 12 = bodySignBranch mb hb) := by decide +kernel

/-- own and body sign of the (repaired) code on all 10×12×12 (year stem, month branch, hour branch) -/
theorem C19_signs_table : ∀ ys < 10, ∀ mb < 12, ∀ hb < 12,
    Attr.ownSign ys mb hb = Classical.ownSign ys mb hb ∧ Attr.bodySign ys mb hb = Classical.bodySign ys mb hb := by
  intro ys hy mb hm hb hh
  obtain ⟨⟨o, ho, e1, e2⟩, ⟨o', ho', e1', e2'⟩⟩ := sign_offsets mb hm hb hh
  constructor
  · show Attr.signAt ys (Attr.ownOffset mb hb) = monthPillarIn ys (ownSignBranch mb hb)
    rw [e1, signAt_monthPillar ys hy o ho, e2]
  · show Attr.signAt ys (Attr.bodyOffset mb hb) = monthPillarIn ys (bodySignBranch mb hb)
    rw [e1', signAt_monthPillar ys hy o' ho', e2']

theorem mem_box_cons {n : Nat} {t : List Nat} {a : List Nat} :
    a ∈ box (n :: t) ↔ ∃ i r, i < n ∧ r ∈ box t ∧ a = i :: r := by
  simp only [box, List.mem_flatMap, List.mem_range, List.mem_map]
  constructor
  · rintro ⟨i, hi, r, hr, rfl⟩; exact ⟨i, r, hi, hr, rfl⟩
  · rintro ⟨i, r, hi, hr, rfl⟩; exact ⟨i, hi, r, hr, rfl⟩

/-- the two eight-character families are the 10×12×12 box mapped through own / body sign -/
theorem table_ec : Attr.table .ecOwn = Classical.table .ecOwn ∧ Attr.table .ecBody = Classical.table .ecBody := by
  have key : ∀ a ∈ box [10, 12, 12], ∃ y m h, a = [y, m, h] ∧ y < 10 ∧ m < 12 ∧ h < 12 := by
    intro a ha
    obtain ⟨y, r1, hy, hr1, rfl⟩ := mem_box_cons.mp ha
    obtain ⟨m, r2, hm, hr2, rfl⟩ := mem_box_cons.mp hr1
    obtain ⟨h, r3, hh, hr3, rfl⟩ := mem_box_cons.mp hr2
    simp only [box, List.mem_singleton] at hr3
    exact ⟨y, m, h, by rw [hr3], hy, hm, hh⟩
  constructor <;>
  · refine List.map_congr_left fun a ha => ?_
    obtain ⟨y, m, h, rfl, hy, hm, hh⟩ := key a ha
    have := C19_signs_table y hy m hm h hh
    simp only [Attr.answer, Classical.answer, this.1, this.2]

/-- every family, every argument tuple: literal arrays + index arithmetic of the code = classical rule -/
theorem C19_model_eq_spec : ∀ f ∈ Fam.all, Attr.table f = Classical.table f := by
  -- the two 1,440-row families follow from `C19_signs_table`; the other 49 (1,959 rows) are evaluated
  have rest : ∀ f ∈ Fam.all, f ≠ .ecOwn → f ≠ .ecBody → Attr.table f = Classical.table f := by decide +kernel
  intro f hf
  by_cases h1 : f = .ecOwn
  · rw [h1]; exact table_ec.1
  by_cases h2 : f = .ecBody
  · rw [h2]; exact table_ec.2
  exact rest f hf h1 h2
example : Fam.all.length = 51 := by decide +kernel
example : ((Fam.all.map (fun f => f.args.length)).foldl (· + ·) 0) = 4839 := by decide +kernel

/-- pillar components as the code computes them are the plain remainders, and they lie in range -/
theorem C19_cycle_components : ∀ p < 60,
    Attr.cycleStem p = pillarStem p ∧ Attr.cycleBranch p = pillarBranch p ∧ pillarStem p < 10 ∧ pillarBranch p < 12 := by
  decide +kernel

/-- own and body sign read the year stem, month branch and hour branch only, so the 10×12×12 table covers all
    60⁴ eight-character values: for ARBITRARY year / month / hour pillars the code's answer is the classical one -/
theorem C19_signs_all_pillars : ∀ y < 60, ∀ m < 60, ∀ h < 60,
    Attr.ownSign (Attr.cycleStem y) (Attr.cycleBranch m) (Attr.cycleBranch h)
      = Classical.ownSign (pillarStem y) (pillarBranch m) (pillarBranch h)
    ∧ Attr.bodySign (Attr.cycleStem y) (Attr.cycleBranch m) (Attr.cycleBranch h)
      = Classical.bodySign (pillarStem y) (pillarBranch m) (pillarBranch h) := by
  intro y hy m hm h hh
  obtain ⟨e1, _, r1, _⟩ := C19_cycle_components y hy
  obtain ⟨_, e2, _, r2⟩ := C19_cycle_components m hm
  obtain ⟨_, e3, _, r3⟩ := C19_cycle_components h hh
  rw [e1, e2, e3]
  exact C19_signs_table _ r1 _ r2 _ r3
example : Attr.ownSign 0 2 1 = some 2 ∧ Classical.ownSign 0 2 1 = some 2 := by decide +kernel   -- 甲 year, 寅 month, 丑 hour: 丙寅

/-! ## The relations are involutions / inverse pairs, as their meaning requires -/

/-- 生 and 克: "generated by" inverts "generates", "overcome by" inverts "overcomes"; 克 skips one step of the 生 cycle;
    both are 5-cycles without fixed points -/
theorem C19_element_inverse_pairs : ∀ e < 5,
    generatedBy (generates e) = e ∧ generates (generatedBy e) = e ∧
    overcomeBy (overcomes e) = e ∧ overcomes (overcomeBy e) = e ∧
    overcomes e = generates (generates e) ∧ generates e ≠ e ∧ overcomes e ≠ e ∧
    generates e < 5 ∧ overcomes e < 5 := by decide +kernel

/-- every element relates to every other in exactly one of the five ways -/
theorem C19_relation_total : ∀ a < 5, ∀ b < 5, relation a b < 5 ∧ (relation a b = 0 ↔ a = b) := by decide +kernel
theorem C19_relation_dual : ∀ a < 5, ∀ b < 5,
    (relation a b = 1 ↔ relation b a = 4) ∧ (relation a b = 2 ↔ relation b a = 3) := by decide +kernel

/-- each stem sees each of the ten gods exactly once among the ten stems -/
theorem C19_tenstar_permutation : ∀ s < 10, ∀ g < 10, ((List.range 10).filter (fun t => tenStar s t == g)).length = 1 := by decide +kernel
/-- the ten god is decided solely by the two elements' relation and by same / opposite polarity -/
theorem C19_tenstar_rule : ∀ s < 10, ∀ t < 10,
    tenStar s t / 2 = relation (stemElement s) (stemElement t) ∧
    (tenStar s t % 2 = 0 ↔ stemPolarity s = stemPolarity t) := by decide +kernel

/-- five combinations: an involution without fixed points, joining a Yang and a Yin stem whose elements overcome
    each other; the transformed element does not depend on the order -/
theorem C19_stem_combine_involution : ∀ s < 10,
    stemCombine (stemCombine s) = s ∧ stemCombine s ≠ s ∧ stemCombine s < 10 ∧
    stemPolarity (stemCombine s) ≠ stemPolarity s ∧
    (relation (stemElement s) (stemElement (stemCombine s)) = 2 ∨ relation (stemElement s) (stemElement (stemCombine s)) = 3) := by decide +kernel
theorem C19_stem_combine_symmetric : ∀ s < 10, ∀ t < 10,
    stemCombineElement s t = stemCombineElement t s ∧ ((stemCombineElement s t).isSome ↔ t = stemCombine s) := by decide +kernel

/-- the transformed elements of the five pairs follow the generating cycle from earth: 土金水木火 -/
theorem C19_stem_combine_elements : ∀ k < 4, nth stemPairElement (k + 1) 99 = generates (nth stemPairElement k 99) := by decide +kernel

/-- six clashes: opposite branch; an involution without fixed points; equals the transcribed pair list; same polarity -/
theorem C19_clash_involution : ∀ b < 12,
    clash (clash b) = b ∧ clash b ≠ b ∧ clash b < 12 ∧ clash b = partner clashPairs b ∧
    branchPolarity (clash b) = branchPolarity b := by decide +kernel

/-- six combinations: an involution without fixed points joining a Yang and a Yin branch; element independent of order -/
theorem C19_branch_combine_involution : ∀ b < 12,
    branchCombine (branchCombine b) = b ∧ branchCombine b ≠ b ∧ branchCombine b < 12 ∧
    branchPolarity (branchCombine b) ≠ branchPolarity b := by decide +kernel
theorem C19_branch_combine_symmetric : ∀ b < 12, ∀ c < 12,
    branchCombineElement b c = branchCombineElement c b ∧ ((branchCombineElement b c).isSome ↔ c = branchCombine b) := by decide +kernel

/-- six harms: an involution without fixed points; the harm of a branch is the clash of its combination partner
    (害 = 冲我之合) -/
theorem C19_harm_involution : ∀ b < 12,
    harm (harm b) = b ∧ harm b ≠ b ∧ harm b < 12 ∧ harm b = clash (branchCombine b) ∧ harm b = branchCombine (clash b) := by decide +kernel

/-- growth stages: for each stem the twelve branches get the twelve stages once each; the birth branch is stage 0;
    one branch further is one stage further for Yang stems and one stage back for Yin stems -/
theorem C19_terrain_structure : ∀ s < 10,
    terrain s (birthBranch s) = 0 ∧
    (∀ g < 12, ((List.range 12).filter (fun b => terrain s b == g)).length = 1) ∧
    (∀ b < 12, terrain s ((b + 1) % 12) = if stemPolarity s = yangP then (terrain s b + 1) % 12 else (terrain s b + 11) % 12) := by decide +kernel
/-- 阳死阴生, 阳生阴死: a Yin stem is born where its Yang partner dies and dies where the partner is born -/
theorem C19_terrain_yin_yang : ∀ e < 5,
    terrain (2 * e) (birthBranch (2 * e + 1)) = 7 ∧ terrain (2 * e + 1) (birthBranch (2 * e)) = 7 := by decide +kernel

/-- hidden stems: the main qi has the branch's element; the four 生 branches (寅巳申亥) hide as middle qi the Yang stem
    that is born there; the four 库 branches (辰未戌丑) hide as residual qi a stem whose element is entombed there and
    as middle qi the Yin stem of the season that just ended; the four 正 branches (子卯酉 and 午 but for its 己) hide one stem -/
theorem C19_hidden_structure :
    (∀ b < 12, isSomeAnd ((hiddenStems b).head?) fun h => stemElement h = branchElement b) ∧
    (∀ b ∈ [yin, si, shen, hai], isSomeAnd ((hiddenStems b)[1]?) fun m => stemPolarity m = yangP ∧ terrain m b = 0) ∧
    (∀ b ∈ [chen, wei, xu, chou], isSomeAnd ((hiddenStems b)[2]?) fun r => terrain (2 * stemElement r) b = 8) ∧
    (∀ b ∈ [chen, wei, xu, chou], isSomeAnd ((hiddenStems b)[1]?) fun m => stemPolarity m = yinP ∧ stemElement m = branchElement ((b + 11) % 12)) ∧
    (∀ b ∈ [zi, mao, you], (hiddenStems b).length = 1) ∧
    (∀ b < 12, 1 ≤ (hiddenStems b).length ∧ (hiddenStems b).length ≤ 3 ∧ ∀ h ∈ hiddenStems b, h < 10) := by decide +kernel

/-- 煞: every branch lies in a three-harmony group that contains one of 子卯午酉 (its 帝旺 branch), is menaced from
    the sector opposite to that branch, and contains the branch four places on -/
theorem C19_ominous_opposes : ∀ b < 12,
    ∃ g ∈ ominousGroups, b ∈ g ∧ ∃ c ∈ g, c ∈ [zi, mao, wuB, you] ∧ ominous b = branchSector (clash c) ∧ (b + 4) % 12 ∈ g := by decide +kernel

/-- for the four cardinal branches 子卯午酉 the compass sector is the direction of the branch's element -/
theorem C19_sector_cardinals : ∀ b ∈ [zi, mao, wuB, you], branchSector b = branchDirection b := by decide +kernel

/-- pillars: stem and branch have equal parity, and (stem, branch) ↦ pillar inverts it -/
theorem C19_pillar_roundtrip : ∀ p < 60, pillarOf (pillarStem p) (pillarBranch p) = some p := by decide +kernel
/-- searching the six pillars of a stem = searching all sixty (the specification's `pillarOf`, the model's `from_name`) -/
theorem C19_pillar_search : ∀ s < 10, ∀ b < 12,
    pillarOf s b = (List.range 60).find? (fun p => pillarStem p == s && pillarBranch p == b) ∧
    Attr.pillarNamed s b = Attr.pillarNamedSlow s b := by decide +kernel
theorem C19_pillar_parity : ∀ s < 10, ∀ b < 12, (pillarOf s b).isSome ↔ s % 2 = b % 2 := by decide +kernel

/-- Nayin: the element by the counting rule is the one the classical name ends in; both pillars of a pair agree -/
theorem C19_nayin_name_rule : ∀ i < 30,
    (soundNames[i]?.bind (·.getLast?)).map elementOfChar = some (nayinElement (2 * i)) ∧
    nayinElement (2 * i + 1) = nayinElement (2 * i) := by decide +kernel

/-- decade and void: the decade is the one opened by the latest 甲 pillar; exactly two branches are void, they are
    consecutive, not used by any pillar of the decade, and are the branches of the two pillars that would follow it -/
theorem C19_void_structure : ∀ p < 60,
    pillarStem (10 * decade p) = jia ∧ 10 * decade p ≤ p ∧ p < 10 * decade p + 10 ∧
    voidBranches p = [pillarBranch (10 * decade p + 10), pillarBranch (10 * decade p + 11)] ∧
    (∀ q < 60, decade q = decade p → pillarBranch q ∉ voidBranches p) := by decide +kernel

/-- 28 mansions: the luminary advances with the weekday from 角 = Jupiter (Thursday); zone, field and luck are
    indices of their lists -/
theorem C19_mansion_structure : ∀ i < 28,
    mansionLuminary i = (i + 4) % 7 ∧ mansionZone i < 4 ∧ mansionLand i < 9 ∧ mansionLuck i < 2 := by decide +kernel

/-- zodiac signs: the 366 month-days split into 12 contiguous runs (one per sign, Capricorn wrapping over the new
    year) of 29 to 32 days -/
theorem C19_constellation_runs :
    let days := (Fam.args .dayConstellation).map (fun a => constellation (a.head! + 1) (a.getLast! + 1))
    days.length = 366 ∧
    (∀ k < 12, 29 ≤ (days.filter (· == k)).length ∧ (days.filter (· == k)).length ≤ 32) ∧
    ((days.zip (days.drop 1 ++ days.take 1)).filter (fun p => p.1 != p.2)).length = 12 ∧
    (∀ p ∈ days.zip (days.drop 1 ++ days.take 1), p.2 = p.1 ∨ p.2 = (p.1 + 1) % 12) := by decide +kernel

/-- daily foetus spirit: the runs cover the sixty days; 44 days outside, 16 inside (癸巳 .. 戊申) -/
theorem C19_fetus_day_runs :
    (fetusDayRuns.map (·.2)).foldl (· + ·) 0 = 60 ∧
    (∀ p < 60, (fetusDayPlace p).1 = 0 ↔ 29 ≤ p ∧ p < 45) ∧
    (∀ p < 60, (fetusDayPlace p).2 < 9) := by decide +kernel

/-- 五虎遁 is total: every year stem has a month pillar on every branch, and it stands on that branch -/
theorem monthPillarIn_total : ∀ y < 10, ∀ b < 12, isSomeAnd (monthPillarIn y b) fun p => p < 60 ∧ pillarBranch p = b := by
  decide +kernel

/-- a sign that is, by definition, the year's month pillar on a palace branch `b` -/
theorem monthPillarIn_wellformed {y b : Nat} (hy : y < 10) (hb : b < 12) :
    isSomeAnd (monthPillarIn y b) fun p => p < 60 ∧ pillarBranch p = b ∧ monthPillarIn y (pillarBranch p) = some p := by
  obtain ⟨p, hp, h60, hbr⟩ := monthPillarIn_total y hy b hb
  exact ⟨p, hp, h60, hbr, by rw [hbr]; exact hp⟩

/-- own sign: always a pillar; its branch is the palace of the hand method and the pillar is the month pillar of the
    birth year standing on that branch (五虎遁) — so within one year equal palace branches get equal stems -/
theorem C19_own_sign_wellformed : ∀ y < 10, ∀ m < 12, ∀ h < 12,
    isSomeAnd (ownSign y m h) fun p => p < 60 ∧ pillarBranch p = ownSignBranch m h ∧ monthPillarIn y (pillarBranch p) = some p :=
  fun _ hy _ _ _ _ => monthPillarIn_wellformed hy (Nat.mod_lt _ (by decide))
/-- body sign: likewise -/
theorem C19_body_sign_wellformed : ∀ y < 10, ∀ m < 12, ∀ h < 12,
    isSomeAnd (bodySign y m h) fun p => p < 60 ∧ pillarBranch p = bodySignBranch m h ∧ monthPillarIn y (pillarBranch p) = some p :=
  fun _ hy _ _ _ _ => monthPillarIn_wellformed hy (Nat.mod_lt _ (by decide))
/-- the own-sign rule in its usual arithmetic form: month and hour counted 寅 = 1 … 丑 = 12, palace number
    14 − (m + h) if that is positive, else 26 − (m + h), counted from 寅 = 1 -/
theorem C19_own_sign_formula : ∀ m < 12, ∀ h < 12,
    monthNumber (ownSignBranch m h) =
      (if monthNumber m + monthNumber h < 14 then 14 - (monthNumber m + monthNumber h) else 26 - (monthNumber m + monthNumber h)) := by
  decide +kernel
/-- the body-sign rule in its usual arithmetic form: month counted 寅 = 1, hour counted 子 = 1, sum reduced to 1..12, counted from 寅 = 1 -/
theorem C19_body_sign_formula : ∀ m < 12, ∀ h < 12,
    monthNumber (bodySignBranch m h) = (monthNumber m + (h + 1) - 1) % 12 + 1 := by
  decide +kernel
/-- foetal breath is an involution on the sixty pillars -/
theorem C19_fetal_breath_involution : ∀ p < 60, isSomeAnd (fetalBreath p) fun q => q < 60 ∧ fetalBreath q = some p := by
  decide +kernel
/-- foetal origin: one stem and three branches after the month pillar, always a pillar -/
theorem C19_fetal_origin_rule : ∀ p < 60,
    isSomeAnd (fetalOrigin p) fun q => q < 60 ∧ pillarStem q = (pillarStem p + 1) % 10 ∧ pillarBranch q = (pillarBranch p + 3) % 12 := by
  decide +kernel

/-- 五虎遁 is consistent with the pillar order: month pillars of a year are twelve consecutive pillars from the 寅 month -/
theorem C19_five_tigers_consecutive : ∀ y < 10, ∀ k < 11,
    isSomeAnd (monthPillarIn y ((yin + k) % 12)) fun p => monthPillarIn y ((yin + k + 1) % 12) = some ((p + 1) % 60) := by decide +kernel

/-! ## Record of defect D23 (not obligations: about the formulas as they were at 3b842a4, kept in the model as
`ownSignOld` / `bodySignOld` and compared once with the unrepaired library on all 2,880 rows) -/

set_option synthInstance.maxSize 2048 in
/-- the unrepaired own sign is wrong exactly when the month and hour numbers (寅 = 1 … 丑 = 12) sum to 13 with a 丑 among
    them or are both 丑: (month, hour) ∈ {(丑,丑), (丑,寅), (寅,丑)} — for every year stem; the branch is right, the stem is two ahead -/
theorem D23_old_own_sign_wrong_exactly : ∀ y < 10, ∀ m < 12, ∀ h < 12,
    (Attr.ownSignOld y m h ≠ Classical.ownSign y m h ↔ (m = chou ∧ h = chou) ∨ (m = chou ∧ h = yin) ∨ (m = yin ∧ h = chou)) ∧
    (Attr.ownSignOld y m h).map pillarBranch = (Classical.ownSign y m h).map pillarBranch := by decide +kernel
set_option synthInstance.maxSize 2048 in
/-- the unrepaired body sign is wrong exactly for a 子 month with a 子 hour (truncating `%` of −1) -/
theorem D23_old_body_sign_wrong_exactly : ∀ y < 10, ∀ m < 12, ∀ h < 12,
    (Attr.bodySignOld y m h ≠ Classical.bodySign y m h ↔ (m = zi ∧ h = zi)) ∧
    (Attr.bodySignOld y m h).map pillarBranch = (Classical.bodySign y m h).map pillarBranch := by decide +kernel
/-- witness: 甲 year, 寅 month, 丑 hour — the old code said 戊寅 (14), which is no month of a 甲 year; the rule gives 丙寅 (2),
    and the old code itself gave 丙寅 for the same palace reached from 卯 month, 子 hour -/
example : Attr.ownSignOld 0 2 1 = some 14 ∧ Classical.ownSign 0 2 1 = some 2 ∧ Attr.ownSignOld 0 3 0 = some 2 := by decide +kernel

end Tyme

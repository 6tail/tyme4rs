import Tyme.Lemmas.ChildLimit
import Tyme.Spec.ChildLimit
import Tyme.Thm.C02
import Tyme.Thm.C12
import Tyme.Facts.C13Win
import Tyme.Thm.C06
/-!
C16 — child limit and fortunes follow from birth instant, gender and the governing Jie. Property theorems (`C16_*`).
Model: `CL.fromSolarTime` (ChildLimit::from_solar_time), `CL.addNext` (AbstractChildLimitProvider::next), the four
count functions, `CL.dec*` / `CL.fort*` (DecadeFortune / Fortune). Data: `realEph` (term instants re-extracted from
/repo on every run; the term-gap fact `realEph_termInc` is kernel-checked over all 239,977 representable terms of the table).

KNOWN DEFECT D22 (not repaired): the day-overflow walk of `next` counts October 1582 as 21 days numbered 1..21.
`C16_end_partial` therefore excludes exactly the ends that stop in October 1582 on a day number ≥ 5 (and
`C16_end_sum` also the target month October 1582 with a birth-day label ≥ 5; `C16_end_sum_oct_label` gives back the
one sub-case where the code is right; `C16_end_oct1582` says what happens in the excluded case); `C16_end_full` is
the statement without the exclusion and is refuted in Tyme/Findings/C16.lean.
-/
namespace Tyme
open CL

/-- luck runs forward exactly for Yang-year men and Yin-year women (Yang ⇔ the year stem `p mod 10` is even) -/
theorem C16_direction (p : Int) (man : Bool) :
    forward p man = true ↔ ((p % 10 % 2 = 0 ∧ man = true) ∨ (p % 10 % 2 = 1 ∧ man = false)) := by
  unfold forward
  cases man <;> simp <;> omega

/-- the model's direction test is the spec's -/
theorem C16_direction_spec (p : Int) (man : Bool) : forward p man = CLSpec.forward (p % 10) man := by
  unfold forward CLSpec.forward
  have h : p % 10 % 2 = 0 ∨ p % 10 % 2 = 1 := by omega
  rcases h with h | h <;> cases man <;> simp [h]

example : forward 0 true = true ∧ forward 0 false = false ∧ forward 1 true = false ∧ forward 1 false = true := by decide

/-- instant → term (partial correctness, any ephemeris): what `get_term` returns starts at or before the instant
and the next term, if representable, starts after it -/
theorem C16_ofTime_spec (E : Eph) (Y M D h mi s : Int) (g : Nat) (hg : Term.ofTime E Y M D h mi s = some g) :
    E.termDay g ≠ 0 ∧ E.termSec g ≤ 86400 * jdn Y M D + 3600 * h + 60 * mi + s ∧
    (E.termDay (g + 1) = 0 ∨ 86400 * jdn Y M D + 3600 * h + 60 * mi + s < E.termSec (g + 1)) := by
  rw [Term.ofTime_eq] at hg
  split at hg
  · cases hg
  · exact Term.locate_spec hg

/-- the governing term is a Jie: the term of the instant stepped back to a Jie if it is a Qi, two further if forward -/
theorem C16_governing (g : Nat) (fwd : Bool) (hg : 1 ≤ g) :
    (Term.gidx (governing g fwd)).toNat = (if g % 2 = 1 then g else g - 1) + (if fwd then 2 else 0) ∧
    Term.isJie (governing g fwd) = true := by
  -- everything on the global index: `next` adds, a Jie is an odd index
  have par : ∀ t : Int × Int, Term.isJie t = (Term.gidx t % 2 == 1) := by
    intro t; unfold Term.isJie Term.gidx; rw [Bool.eq_iff_iff]; simp only [beq_iff_eq]; omega
  unfold governing
  dsimp only
  generalize ht1 : (if !Term.isJie (Term.ofGidx g) then Term.next (Term.ofGidx g) (-1) else Term.ofGidx g) = t1
  have hq : (!Term.isJie (Term.ofGidx g)) = decide (g % 2 = 0) := by
    rw [(Term.ofGidx_parity g).1, Bool.eq_iff_iff]
    simp only [Bool.not_eq_true', decide_eq_false_iff_not, decide_eq_true_eq]
    omega
  have h1 := Term.jie_before g hg _ hq t1 ht1
  have odd : (if g % 2 = 1 then g else g - 1) % 2 = 1 := by split <;> omega
  generalize (if g % 2 = 1 then g else g - 1) = Gb at h1 odd ⊢
  have hg1 : Term.gidx t1 = 24 * (t1.1 - 1) + t1.2 := rfl
  cases fwd
  · simp only [Bool.false_eq_true, if_false, par, beq_iff_eq]
    exact ⟨by omega, by omega⟩
  · have s := Term.gidx_next t1 2 h1.2.1 h1.2.2 (by omega)
    simp only [if_true, par, beq_iff_eq]
    exact ⟨by omega, by omega⟩

/-- On the current tree's term table: with `Gb` the Jie index "term of the instant, stepped back if it is a Qi",
Gb is the LATEST Jie at or before the birth instant, Gb + 2 is the NEXT Jie (strictly after it), the two are at most
2 × 15.8 days apart — so the span to the governing Jie (Gb backward, Gb + 2 forward) never exceeds 2,730,240 s. -/
theorem C16_governing_span (b : Time) (g : Nat)
    (hg : Term.ofTime realEph b.day.1 b.day.2.1 b.day.2.2 b.h b.mi b.s = some g) (hr : g + 2 ≤ 239977) :
    let Gb := if g % 2 = 1 then g else g - 1
    1 ≤ g ∧ Gb % 2 = 1 ∧ realEph.termSec Gb ≤ secs b ∧ secs b < realEph.termSec (Gb + 2) ∧
    realEph.termSec (Gb + 2) ≤ realEph.termSec Gb + 2730240 := by
  obtain ⟨a1, a2, a3⟩ := C16_ofTime_spec realEph _ _ _ _ _ _ g hg
  have hs : secs b = 86400 * jdn b.day.1 b.day.2.1 b.day.2.2 + 3600 * b.h + 60 * b.mi + b.s := rfl
  rw [← hs] at a2 a3
  have hg1 := ((realEph_termFacts.ne_zero_iff g).1 a1).1
  have hn := a3.resolve_left ((realEph_termFacts.ne_zero_iff _).2 ⟨by omega, by omega⟩)
  -- the term before g, g itself and the term after it, each 14.6 .. 15.8 days long
  have i1 := realEph_termInc g hg1 (by omega)
  have i2 := realEph_termInc (g + 1) (by omega) (by omega)
  rw [show g + 1 + 1 = g + 2 from rfl] at i2
  dsimp only
  by_cases hp : g % 2 = 1
  · simp only [hp, if_true]
    exact ⟨hg1, trivial, a2, by omega, by omega⟩
  · simp only [hp, if_false]
    have i0 := realEph_termInc (g - 1) (by omega) (by omega)
    rw [show g - 1 + 1 = g by omega] at i0
    rw [show g - 1 + 2 = g + 1 by omega]
    exact ⟨hg1, by omega, by omega, hn, by omega⟩

/-- non-vacuity on the real data: 2024-02-04 12:00:00 lies in Dahan (term 2 of 2024, a Qi); the governing Jie is
Xiaohan (2024, 1) backward and Lichun (2024, 3) forward -/
example : Term.ofTime realEph 2024 2 4 12 0 0 = some (24 * 2023 + 2) := by rw [realEph_eq_quick]; decide +kernel
example : governing (24 * 2023 + 2) true = (2024, 3) ∧ governing (24 * 2023 + 2) false = (2024, 1) := by decide

/-- Default: for every span s the counts are the mixed-radix digits of s:
259200 s = 1 year, 21600 s = 1 month, 720 s = 1 day, 30 s = 1 hour, 1 s = 2 minutes -/
theorem C16_counts_default_spec (s : Int) :
    ((countsDefault s).y, (countsDefault s).mo, (countsDefault s).d, (countsDefault s).h, (countsDefault s).mi) = CLSpec.digitsDefault s := by
  unfold countsDefault CLSpec.digitsDefault
  simp only [Prod.mk.injEq]
  refine ⟨trivial, ?_, ?_, ?_, ?_⟩ <;> omega

/-- China95: whole minutes m = ⌊s/60⌋; 4320 min = 1 year, 360 min = 1 month, 12 min = 1 day; the rest is dropped -/
theorem C16_counts_china95_spec (s : Int) :
    ((countsChina95 s).y, (countsChina95 s).mo, (countsChina95 s).d, (countsChina95 s).h, (countsChina95 s).mi) = CLSpec.digitsChina95 s := by
  unfold countsChina95 CLSpec.digitsChina95
  simp only [Prod.mk.injEq]
  generalize s / 60 = m
  refine ⟨trivial, ?_, ?_, trivial⟩ <;> omega

/-- LunarSect2: whole minutes; as China95 plus 1 minute = 2 hours, exact on minutes -/
theorem C16_counts_sect2_spec (s : Int) :
    ((countsSect2 s).y, (countsSect2 s).mo, (countsSect2 s).d, (countsSect2 s).h, (countsSect2 s).mi) = CLSpec.digitsSect2 s := by
  unfold countsSect2 CLSpec.digitsSect2
  simp only [Prod.mk.injEq]
  generalize s / 60 = m
  refine ⟨trivial, ?_, ?_, ?_, trivial⟩ <;> omega

/-- LunarSect1: with u = 12·(day difference) + (double-hour difference) ≥ 0 whole double-hours between the two
instants: 36 = 1 year, 3 = 1 month, 1 = 10 days (the isize divisions never see a negative operand) -/
theorem countsSect1_eq (si ei dd u : Int) (h1 : 0 ≤ si) (h2 : si ≤ 11) (h3 : 0 ≤ ei) (h4 : ei ≤ 11)
    (hu : u = 12 * dd + (ei - si)) (h0 : 0 ≤ u) :
    countsSect1 si ei dd = ⟨u / 36, u / 3 % 12, 10 * (u % 3), 0, 0⟩ := by
  subst hu
  unfold countsSect1
  dsimp only
  split <;> rename_i hneg
  · rw [Int.tdiv_eq_ediv_of_nonneg (show 0 ≤ (ei - si + 12) * 10 by omega), Int.tdiv_eq_ediv_of_nonneg (by omega)]
    simp only [Counts.mk.injEq, and_true]; omega
  · rw [Int.tdiv_eq_ediv_of_nonneg (show 0 ≤ (ei - si) * 10 by omega), Int.tdiv_eq_ediv_of_nonneg (by omega)]
    simp only [Counts.mk.injEq, and_true]; omega

/-- the double-hour index LunarSect1 uses is monotone in the hour and stays in 0..11 -/
theorem C16_zhiIndex (h : Int) (h0 : 0 ≤ h) (h1 : h ≤ 23) :
    0 ≤ zhiIndex h ∧ zhiIndex h ≤ 11 ∧ zhiIndex h = CLSpec.dhour h ∧ (∀ h', h ≤ h' → h' ≤ 23 → zhiIndex h ≤ zhiIndex h') := by
  unfold zhiIndex CLSpec.dhour
  refine ⟨by split <;> omega, by split <;> omega, by split <;> split <;> omega, ?_⟩
  intro h' a b
  split <;> split <;> omega

example : countsDefault 2730240 = ⟨10, 6, 12, 0, 0⟩ := by decide
example : countsDefault 691271 = ⟨2, 8, 0, 2, 22⟩ := by decide

/-- the carries of `next` conserve the total of days, hours, minutes, seconds and normalise the clock fields -/
theorem C16_carries (d h mi s : Int) (hh : 0 ≤ h) (hmi : 0 ≤ mi) (hs : 0 ≤ s) :
    86400 * (carries d h mi s).1 + 3600 * (carries d h mi s).2.1 + 60 * (carries d h mi s).2.2.1 + (carries d h mi s).2.2.2
      = 86400 * d + 3600 * h + 60 * mi + s ∧
    d ≤ (carries d h mi s).1 ∧ 0 ≤ (carries d h mi s).2.1 ∧ (carries d h mi s).2.1 ≤ 23 ∧ 0 ≤ (carries d h mi s).2.2.1 ∧
    (carries d h mi s).2.2.1 ≤ 59 ∧ 0 ≤ (carries d h mi s).2.2.2 ∧ (carries d h mi s).2.2.2 ≤ 59 :=
  carries_spec d h mi s hh hmi hs

/-- the month step of `next` is addition on the linear month index 12·year + (month − 1) -/
theorem C16_monthNext (y m n : Int) (hy : 0 ≤ y) (hm : 1 ≤ m) (hm2 : m ≤ 12) (hn : 0 ≤ n) :
    monthNext y m n =
      if (12 * y + (m - 1) + n) / 12 < 1 ∨ (12 * y + (m - 1) + n) / 12 > 9999 then none
      else some (ofMonthIdx (12 * y + (m - 1) + n)) := monthNext_eq y m n hy hm hn

/-- the first of the next month lies `get_day_count` days after the first of this month, for every month of the
range (October 1582 with its 21 days included): the month lengths the walk uses are those of the civil calendar -/
theorem C16_month_succ (y m : Int) (hy : 1 ≤ y) (hy2 : y ≤ 9999) (hm : 1 ≤ m) (hm2 : m ≤ 12) :
    jdn (if m = 12 then y + 1 else y) (if m = 12 then 1 else m + 1) 1 = jdn y m 1 + monthLen y m :=
  jdn_month_succ y m hm hm2

/-- THE WALK (any day number, no bound): it stops in a month where the remaining day number fits, conserves
"first of month + day number" on the day line, never goes back, and is the identity when the day already fits. -/
theorem C16_walk_spec (f : Nat) (d : Int) (sm : Int × Int) (r : Int × Int × Int)
    (h1 : 1 ≤ sm.1) (h2 : sm.1 ≤ 9999) (h3 : 1 ≤ sm.2) (h4 : sm.2 ≤ 12) (h5 : 1 ≤ d) (h : walk f d sm = some r) :
    1 ≤ r.1 ∧ r.1 ≤ 9999 ∧ 1 ≤ r.2.1 ∧ r.2.1 ≤ 12 ∧ 1 ≤ r.2.2 ∧ r.2.2 ≤ monthLen r.1 r.2.1 ∧
    jdn r.1 r.2.1 1 + r.2.2 = jdn sm.1 sm.2 1 + d ∧
    12 * sm.1 + sm.2 ≤ 12 * r.1 + r.2.1 ∧ (d ≤ monthLen sm.1 sm.2 → r = (sm.1, sm.2, d)) :=
  walk_spec f d sm r h1 h2 h3 h4 h5 h

/-- THE WALK TERMINATES: with the fuel the model gives it (day number + 1) it always returns, unless the sum
lies after 9999-12-31 -/
theorem C16_walk_total (d : Int) (sm : Int × Int) (h1 : 1 ≤ sm.1) (h2 : sm.1 ≤ 9999) (h3 : 1 ≤ sm.2) (h4 : sm.2 ≤ 12)
    (h0 : 0 ≤ d) (h6 : jdn sm.1 sm.2 1 + d - 1 ≤ jdnLast) : (walk (d.toNat + 1) d sm).isSome = true :=
  walk_fuel (d.toNat + 1) d sm h1 h2 h3 h4 h0 (by omega) h6

/-- END INSTANT (partial: D22 excluded). For every valid birth instant and all non-negative counts, if `next`
returns e then e is an existing instant and — unless it stopped in October 1582 on a day number ≥ 5 —
e lies exactly (d0 − 1) + D days, H hours and MI minutes (at the birth's clock time) after the first of the target
month T = birth month + 12·Y + M. -/
theorem C16_end_partial (b : Time) (c : Counts) (e : Time) (hb : Clock.valid b = true)
    (h0 : 0 ≤ c.y) (h1 : 0 ≤ c.mo) (h2 : 0 ≤ c.d) (h3 : 0 ≤ c.h) (h4 : 0 ≤ c.mi)
    (he : addNext b c = some e)
    (hx : ¬ (e.day.1 = 1582 ∧ e.day.2.1 = 10 ∧ 5 ≤ e.day.2.2)) :
    Clock.valid e = true ∧
    1 ≤ (ofMonthIdx (12 * (b.day.1 + c.y) + (b.day.2.1 - 1) + c.mo)).1 ∧
    (ofMonthIdx (12 * (b.day.1 + c.y) + (b.day.2.1 - 1) + c.mo)).1 ≤ 9999 ∧
    secs e = 86400 * (jdn (ofMonthIdx (12 * (b.day.1 + c.y) + (b.day.2.1 - 1) + c.mo)).1
                          (ofMonthIdx (12 * (b.day.1 + c.y) + (b.day.2.1 - 1) + c.mo)).2 1 + (b.day.2.2 - 1) + c.d)
             + 3600 * (b.h + c.h) + 60 * (b.mi + c.mi) + b.s := by
  obtain ⟨ve, t1, t2, _, hs⟩ := addNext_label b c e hb h0 h1 h2 h3 h4 he
  rw [if_neg (fun h => hx ⟨h.1, h.2.1, by omega⟩)] at hs
  exact ⟨ve, t1, t2, by omega⟩

/-- …so, when moreover the target month is not October 1582 entered with a birth-day label ≥ 5, the end is the
CALENDAR SUM: the birth's day-of-month label and clock time in the target month (a label past the month's end
running over into the next month), plus D days, H hours and MI minutes on the time line. -/
theorem C16_end_sum (b : Time) (c : Counts) (e : Time) (hb : Clock.valid b = true)
    (h0 : 0 ≤ c.y) (h1 : 0 ≤ c.mo) (h2 : 0 ≤ c.d) (h3 : 0 ≤ c.h) (h4 : 0 ≤ c.mi)
    (he : addNext b c = some e)
    (hx : ¬ (e.day.1 = 1582 ∧ e.day.2.1 = 10 ∧ 5 ≤ e.day.2.2))
    (hT : ¬ ((ofMonthIdx (12 * (b.day.1 + c.y) + (b.day.2.1 - 1) + c.mo)) = (1582, 10) ∧ 5 ≤ b.day.2.2)) :
    secs e = secs ⟨((ofMonthIdx (12 * (b.day.1 + c.y) + (b.day.2.1 - 1) + c.mo)).1,
                    (ofMonthIdx (12 * (b.day.1 + c.y) + (b.day.2.1 - 1) + c.mo)).2, b.day.2.2), b.h, b.mi, b.s⟩
             + 86400 * c.d + 3600 * c.h + 60 * c.mi := by
  obtain ⟨_, _, _, hs⟩ := C16_end_partial b c e hb h0 h1 h2 h3 h4 he hx
  obtain ⟨_, _, _, _, d1, d2⟩ := valid_bounds ((clock_valid_iff b).1 hb).1
  have hm := ofMonthIdx_month (12 * (b.day.1 + c.y) + (b.day.2.1 - 1) + c.mo)
  generalize ofMonthIdx (12 * (b.day.1 + c.y) + (b.day.2.1 - 1) + c.mo) = T at hT hs hm ⊢
  have off := jdn_label T.1 T.2 b.day.2.2 hm.1 hm.2 d1 d2 (fun h => hT ⟨Prod.ext h.1 h.2.1, h.2.2.1⟩)
  rw [if_neg (fun h => hT ⟨Prod.ext h.1 h.2.1, by omega⟩)] at off
  unfold secs at hs ⊢
  dsimp only
  omega

/-- NEVER BEFORE BIRTH, AND BOUNDED (D22 excluded): the end lies at or after the birth instant, and at most
31 days per counted month plus the counted days, hours and minutes (plus the ten dropped days) after it. -/
theorem C16_end_after_birth (b : Time) (c : Counts) (e : Time) (hb : Clock.valid b = true)
    (h0 : 0 ≤ c.y) (h1 : 0 ≤ c.mo) (h2 : 0 ≤ c.d) (h3 : 0 ≤ c.h) (h4 : 0 ≤ c.mi)
    (he : addNext b c = some e)
    (hx : ¬ (e.day.1 = 1582 ∧ e.day.2.1 = 10 ∧ 5 ≤ e.day.2.2)) :
    secs b ≤ secs e ∧
    secs b + 86400 * (21 * (12 * c.y + c.mo) + c.d) + 3600 * c.h + 60 * c.mi ≤ secs e ∧
    secs e ≤ secs b + 86400 * (31 * (12 * c.y + c.mo) + c.d + 10) + 3600 * c.h + 60 * c.mi := by
  obtain ⟨_, _, _, hs⟩ := C16_end_partial b c e hb h0 h1 h2 h3 h4 he hx
  obtain ⟨vb, b1, b2, b3, b4, b5, b6⟩ := (clock_valid_iff b).1 hb
  obtain ⟨y1, y2, m1, m2, d1, d2⟩ := valid_bounds vb
  have dx := ((valid_iff _ _ _).1 vb).2.2.2.2.2.2
  have hn : (((12 * c.y + c.mo).toNat : Nat) : Int) = 12 * c.y + c.mo := by omega
  have hi : 12 * b.day.1 + (b.day.2.1 - 1) + ((12 * c.y + c.mo).toNat : Nat) = 12 * (b.day.1 + c.y) + (b.day.2.1 - 1) + c.mo := by omega
  have ha := jdn_idx_add (12 * c.y + c.mo).toNat (12 * b.day.1 + (b.day.2.1 - 1))
  rw [hi] at ha
  have e0 : ofMonthIdx (12 * b.day.1 + (b.day.2.1 - 1)) = (b.day.1, b.day.2.1) := by
    unfold ofMonthIdx; apply Prod.ext <;> (dsimp only; omega)
  rw [e0, hn] at ha
  dsimp only at ha
  -- the birth's own day number against the first of its month
  have hbd := jdn_label b.day.1 b.day.2.1 b.day.2.2 m1 m2 d1 d2 dx
  rw [hs]
  unfold secs
  split at hbd <;> omega

/-- with the counts any strategy can produce from a span of at most two term gaps (Y ≤ 10, M ≤ 11, D ≤ 29,
H ≤ 23, MI ≤ 58) the limit ends less than 4,101 days ≈ 11.2 years after birth: "about eleven years" -/
theorem C16_eleven_years (b : Time) (c : Counts) (e : Time) (hb : Clock.valid b = true)
    (h0 : 0 ≤ c.y) (h1 : 0 ≤ c.mo) (h2 : 0 ≤ c.d) (h3 : 0 ≤ c.h) (h4 : 0 ≤ c.mi)
    (g0 : c.y ≤ 10) (g1 : c.mo ≤ 11) (g2 : c.d ≤ 29) (g3 : c.h ≤ 23) (g4 : c.mi ≤ 58)
    (he : addNext b c = some e)
    (hx : ¬ (e.day.1 = 1582 ∧ e.day.2.1 = 10 ∧ 5 ≤ e.day.2.2)) :
    secs b ≤ secs e ∧ secs e < secs b + 86400 * 4101 := by
  obtain ⟨a, _, c'⟩ := C16_end_after_birth b c e hb h0 h1 h2 h3 h4 he hx
  exact ⟨a, by omega⟩

/-- non-vacuity: the library's own unit test (1989-12-31 23:07:17 + 8 y 1 mo 28 d 20 h 40 min = 1998-03-01 19:47:17:
the day overflow runs from February into March) -/
example : addNext ⟨(1989, 12, 31), 23, 7, 17⟩ ⟨8, 1, 28, 20, 40⟩ = some ⟨(1998, 3, 1), 19, 47, 17⟩ := by decide

/-- ACCEPTANCE of `next`: for a valid birth and non-negative counts it returns an instant whenever the target month
lies in 0001..9999, the sum does not pass 9999-12-31, and the walk does not stop on one of the ten day numbers 5..14
of October 1582 (D22) — the walk itself always terminates. -/
theorem C16_end_exists (b : Time) (c : Counts) (hb : Clock.valid b = true)
    (h0 : 0 ≤ c.y) (h1 : 0 ≤ c.mo) (h2 : 0 ≤ c.d) (h3 : 0 ≤ c.h) (h4 : 0 ≤ c.mi)
    (hT : (ofMonthIdx (12 * (b.day.1 + c.y) + (b.day.2.1 - 1) + c.mo)).1 ≤ 9999)
    (hlast : jdn (ofMonthIdx (12 * (b.day.1 + c.y) + (b.day.2.1 - 1) + c.mo)).1
                 (ofMonthIdx (12 * (b.day.1 + c.y) + (b.day.2.1 - 1) + c.mo)).2 1
             + (carries (b.day.2.2 + c.d) (b.h + c.h) (b.mi + c.mi) b.s).1 - 1 ≤ jdnLast)
    (hx : ∀ r, walk ((carries (b.day.2.2 + c.d) (b.h + c.h) (b.mi + c.mi) b.s).1.toNat + 1)
                 (carries (b.day.2.2 + c.d) (b.h + c.h) (b.mi + c.mi) b.s).1
                 (ofMonthIdx (12 * (b.day.1 + c.y) + (b.day.2.1 - 1) + c.mo)) = some r →
               ¬ (r.1 = 1582 ∧ r.2.1 = 10 ∧ 5 ≤ r.2.2 ∧ r.2.2 ≤ 14)) :
    (addNext b c).isSome = true := by
  generalize hk : carries (b.day.2.2 + c.d) (b.h + c.h) (b.mi + c.mi) b.s = k at hlast hx
  generalize hT' : ofMonthIdx (12 * (b.day.1 + c.y) + (b.day.2.1 - 1) + c.mo) = T at hlast hx hT
  obtain ⟨eq, hT1, hT2, hT3, k0, -, k3, k4, k5, k6, k7, k8⟩ := addNext_eq b c hb h0 h1 h2 h3 h4 k T hk hT'
  rw [eq, if_neg (by omega)]
  have hf := walk_fuel (k.1.toNat + 1) k.1 T hT1 hT hT2 hT3 (by omega) (by omega) hlast
  cases hw : walk (k.1.toNat + 1) k.1 T with
  | none => rw [hw] at hf; cases hf
  | some r =>
    obtain ⟨r1, r2, r3, r4, r5, r6, -⟩ := walk_spec _ _ _ r hT1 hT hT2 hT3 k0 hw
    have hv : Civil.validT r = true := by
      unfold Civil.validT
      rw [← C01_accept_iff, solarDayOk_iff]
      refine ⟨r1, r2, r3, r4, r5, ?_⟩
      split
      · rename_i ho
        have l : monthLen r.1 r.2.1 = 21 := by rw [ho.1, ho.2]; decide
        have := hx r hw
        omega
      · exact r6
    rw [Option.bind_some, mkTime_some r k.2.1 k.2.2.1 k.2.2.2 hv k3 k4 k5 k6 k7 k8]
    rfl

/-- the full-strength statement (no exclusion) — FALSE on the current tree because of D22; refuted in
Tyme/Findings/C16.lean by `addNext ⟨(1582,9,30),12,0,0⟩ ⟨0,0,5,0,0⟩ = none` and a 10-days-early witness -/
def C16_end_full : Prop :=
  ∀ (b : Time) (c : Counts), Clock.valid b = true → 0 ≤ c.y → 0 ≤ c.mo → 0 ≤ c.d → 0 ≤ c.h → 0 ≤ c.mi →
    (ofMonthIdx (12 * (b.day.1 + c.y) + (b.day.2.1 - 1) + c.mo)).1 ≤ 9998 →
    ∃ e, addNext b c = some e ∧
      secs e = 86400 * (jdn (ofMonthIdx (12 * (b.day.1 + c.y) + (b.day.2.1 - 1) + c.mo)).1
                            (ofMonthIdx (12 * (b.day.1 + c.y) + (b.day.2.1 - 1) + c.mo)).2 1 + (b.day.2.2 - 1) + c.d)
               + 3600 * (b.h + c.h) + 60 * (b.mi + c.mi) + b.s

/-- what D22 does when the walk stops in October 1582 on a day number 15..21: the instant exists but lies exactly
ten days BEFORE the sum (day numbers 5..14 do not exist: `next` is refused) -/
theorem C16_end_oct1582 (b : Time) (c : Counts) (e : Time) (hb : Clock.valid b = true)
    (h0 : 0 ≤ c.y) (h1 : 0 ≤ c.mo) (h2 : 0 ≤ c.d) (h3 : 0 ≤ c.h) (h4 : 0 ≤ c.mi)
    (he : addNext b c = some e)
    (hx : e.day.1 = 1582 ∧ e.day.2.1 = 10 ∧ 5 ≤ e.day.2.2) :
    15 ≤ e.day.2.2 ∧ e.day.2.2 ≤ 21 ∧
    secs e + 864000 = 86400 * (jdn (ofMonthIdx (12 * (b.day.1 + c.y) + (b.day.2.1 - 1) + c.mo)).1
                          (ofMonthIdx (12 * (b.day.1 + c.y) + (b.day.2.1 - 1) + c.mo)).2 1 + (b.day.2.2 - 1) + c.d)
             + 3600 * (b.h + c.h) + 60 * (b.mi + c.mi) + b.s := by
  obtain ⟨ve, _, _, r6, hs⟩ := addNext_label b c e hb h0 h1 h2 h3 h4 he
  have vd := ((valid_iff _ _ _).1 ((clock_valid_iff e).1 ve).1).2.2.2.2.2.2
  obtain ⟨x1, x2, x3⟩ := hx
  rw [x1, x2, show monthLen 1582 10 = 21 by decide] at r6
  have hd : 15 ≤ e.day.2.2 := by omega
  rw [if_pos ⟨x1, x2, hd⟩] at hs
  exact ⟨hd, r6, hs⟩

/-- …and the one case inside October 1582 where the code IS right: target month October 1582 entered with a birth-day
label 15..31 and the sum still inside the month — label arithmetic and the 21-day count agree there -/
theorem C16_end_sum_oct_label (b : Time) (c : Counts) (e : Time) (hb : Clock.valid b = true)
    (h0 : 0 ≤ c.y) (h1 : 0 ≤ c.mo) (h2 : 0 ≤ c.d) (h3 : 0 ≤ c.h) (h4 : 0 ≤ c.mi)
    (he : addNext b c = some e)
    (hx : e.day.1 = 1582 ∧ e.day.2.1 = 10 ∧ 5 ≤ e.day.2.2)
    (hT : (ofMonthIdx (12 * (b.day.1 + c.y) + (b.day.2.1 - 1) + c.mo)) = (1582, 10)) (hd : 15 ≤ b.day.2.2) :
    secs e = secs ⟨(1582, 10, b.day.2.2), b.h, b.mi, b.s⟩ + 86400 * c.d + 3600 * c.h + 60 * c.mi := by
  obtain ⟨_, _, hs⟩ := C16_end_oct1582 b c e hb h0 h1 h2 h3 h4 he hx
  obtain ⟨_, _, _, _, d1, d2⟩ := valid_bounds ((clock_valid_iff b).1 hb).1
  have off := jdn_label 1582 10 b.day.2.2 (by decide) (by decide) d1 d2 (by omega)
  rw [if_pos ⟨rfl, rfl, hd⟩] at off
  rw [hT] at hs
  unfold secs at hs ⊢
  dsimp only at hs ⊢
  omega

/-- the eight characters of the birth instant are those of the instant itself (the detour through the lunar hour
is the identity) for every valid birth inside an interval of lunar years where the month table tiles (C02) -/
theorem C16_eightChar_route (E : Eph) (hl : ∀ y, E.leap y ≤ 12) (a b' : Int) (ht : Lunar.TilesOn E a b') (b : Time)
    (hb : Clock.valid b = true) (hY : a ≤ b.day.1) (hY2 : b.day.1 ≤ b')
    (hlo : Lunar.first E ⟨a, 0⟩ ≤ jdn b.day.1 b.day.2.1 b.day.2.2)
    (hhi : jdn b.day.1 b.day.2.1 b.day.2.2 < Lunar.first E ⟨b' + 1, 0⟩)
    (hok : (Lunar.ofSolar E b.day.1 b.day.2.1 b.day.2.2).isSome = true) :
    eightChar E b = SC.ofSolarTime E b.day.1 b.day.2.1 b.day.2.2 b.h b.mi b.s := by
  obtain ⟨vb, b1, b2, b3, b4, b5, b6⟩ := (clock_valid_iff b).1 hb
  cases hr : Lunar.ofSolar E b.day.1 b.day.2.1 b.day.2.2 with
  | none => rw [hr] at hok; simp at hok
  | some r =>
    obtain ⟨s1, s2⟩ := C02_sls E hl a b' ht b.day.1 b.day.2.1 b.day.2.2 vb hY hY2 hlo hhi r hr
    unfold eightChar lunarDayOf
    rw [hr]
    dsimp only
    rw [s2]
    dsimp only
    rw [s1]
    dsimp only
    have : timeOk b.day.1 b.day.2.1 b.day.2.2 b.h b.mi b.s = true :=
      (timeOk_iff _ _ _ _ _ _).2 ⟨vb, b1, b2, b3, b4, b5, b6⟩
    rw [this]
    rfl

/-- the instant of a term as `get_solar_time` reports it sits at `termSec` on the seconds line -/
theorem C16_termTime (E : Eph) (t : Int × Int) (tt : Time) (h : termTime E t = some tt) :
    Clock.valid tt = true ∧ secs tt = E.termSec (Term.gidx t).toNat := by
  unfold termTime at h
  dsimp only at h
  split at h
  · simp at h
  · split at h
    · simp at h
    · obtain ⟨ve, hj, e1, e2, e3⟩ := (mkTime_ofJdn _ _ _ _ tt).1 h
      refine ⟨ve, ?_⟩
      unfold Eph.termSec
      rw [secs_eq, hj, e1, e2, e3]
      omega

/-- inversion of the model: a limit is assembled from exactly these pieces -/
theorem C16_limit_view (E : Eph) (p : Int) (b : Time) (man : Bool) (l : Limit) (h : fromSolarTime E p b man = some l) :
    ∃ ec g tt, eightChar E b = some ec ∧ Term.ofTime E b.day.1 b.day.2.1 b.day.2.2 b.h b.mi b.s = some g ∧
      l.ec = ec ∧ l.man = man ∧ l.fwd = forward ec.year man ∧ l.start = b ∧
      termTime E (governing g l.fwd) = some tt ∧ countsOf E p b tt = some l.c ∧ addNext b l.c = some l.stop := by
  unfold fromSolarTime at h
  split at h
  · cases h
  · rename_i ec h1
    dsimp only at h
    split at h
    · cases h
    · rename_i g h2
      split at h
      · cases h
      · rename_i tt h3
        split at h
        · cases h
        · rename_i c h4
          split at h
          · cases h
          · rename_i e h5
            cases h
            exact ⟨ec, g, tt, h1, h2, rfl, rfl, rfl, rfl, h3, h4, h5⟩

/-- core of the pipeline on the current tree's data (any strategy): direction; the governing instant `tt` is the NEXT
Jie after birth when forward and the LATEST Jie at or before birth otherwise; the two are at most 2,730,240 s apart -/
theorem C16_limit_core (p : Int) (b : Time) (man : Bool) (l : Limit) (h : fromSolarTime realEph p b man = some l) :
    ∃ ec g tt, eightChar realEph b = some ec ∧ Term.ofTime realEph b.day.1 b.day.2.1 b.day.2.2 b.h b.mi b.s = some g ∧
      (l.fwd = true ↔ ((ec.year % 10 % 2 = 0 ∧ man = true) ∨ (ec.year % 10 % 2 = 1 ∧ man = false))) ∧
      l.start = b ∧ addNext b l.c = some l.stop ∧ countsOf realEph p b tt = some l.c ∧ Clock.valid tt = true ∧
      (g + 2 ≤ 239977 →
        let Gb := if g % 2 = 1 then g else g - 1
        Gb % 2 = 1 ∧ realEph.termSec Gb ≤ secs b ∧ secs b < realEph.termSec (Gb + 2) ∧
        realEph.termSec (Gb + 2) ≤ realEph.termSec Gb + 2730240 ∧
        secs tt = (if l.fwd then realEph.termSec (Gb + 2) else realEph.termSec Gb)) := by
  obtain ⟨ec, g, tt, e1, e2, e3, e4, e5, e6, e7, e8, e9⟩ := C16_limit_view realEph p b man l h
  obtain ⟨vt, ts⟩ := C16_termTime realEph _ tt e7
  refine ⟨ec, g, tt, e1, e2, ?_, e6, e9, e8, vt, ?_⟩
  · rw [e5]; exact C16_direction ec.year man
  · intro hr
    obtain ⟨hg1, s2, s3, s4, s5⟩ := C16_governing_span b g e2 hr
    rw [(C16_governing g l.fwd hg1).1] at ts
    refine ⟨s2, s3, s4, s5, ?_⟩
    rw [ts]
    cases l.fwd <;> rfl

/-- the three second/minute-based strategies feed |governing instant − birth| to their count function -/
theorem C16_countsOf_span (E : Eph) (p : Int) (hp : p ≠ 2) (b tt : Time) :
    countsOf E p b tt = some ((if p = 1 then countsChina95 else if p = 3 then countsSect2 else countsDefault)
      (((secs tt - secs b).natAbs : Nat) : Int)) := by
  unfold countsOf
  dsimp only
  rw [C12_subtract]
  by_cases h1 : p = 1
  · simp [h1]
  · by_cases h3 : p = 3
    · simp [h3]
    · simp [h1, h3, hp]

/-- THE DEFAULT LIMIT on the current tree's data, all births, both genders: direction from the year stem and gender;
the span runs to the NEXT Jie after birth when forward, back to the LATEST Jie at or before birth otherwise; it is at
most 2,730,240 s; the counts are its digits (so at most 10 years …); the end is `next` of birth and counts.
The same for China95 (p = 1) and LunarSect2 (p = 3) with their own count functions. -/
theorem C16_span_limit (p : Int) (hp : p ≠ 2) (b : Time) (man : Bool) (l : Limit)
    (h : fromSolarTime realEph p b man = some l) :
    ∃ ec g, eightChar realEph b = some ec ∧ Term.ofTime realEph b.day.1 b.day.2.1 b.day.2.2 b.h b.mi b.s = some g ∧
      (l.fwd = true ↔ ((ec.year % 10 % 2 = 0 ∧ man = true) ∨ (ec.year % 10 % 2 = 1 ∧ man = false))) ∧
      addNext b l.c = some l.stop ∧
      (g + 2 ≤ 239977 →
        let Gb := if g % 2 = 1 then g else g - 1
        let span := if l.fwd then realEph.termSec (Gb + 2) - secs b else secs b - realEph.termSec Gb
        realEph.termSec Gb ≤ secs b ∧ secs b < realEph.termSec (Gb + 2) ∧ 0 ≤ span ∧ span ≤ 2730240 ∧
        l.c = (if p = 1 then countsChina95 else if p = 3 then countsSect2 else countsDefault) span ∧
        0 ≤ l.c.y ∧ l.c.y ≤ 10 ∧ 0 ≤ l.c.mo ∧ l.c.mo ≤ 11 ∧ 0 ≤ l.c.d ∧ l.c.d ≤ 29 ∧ 0 ≤ l.c.h ∧ l.c.h ≤ 23 ∧
        0 ≤ l.c.mi ∧ l.c.mi ≤ 58) := by
  obtain ⟨ec, g, tt, e1, e2, e3, e4, e5, e6, e7, e8⟩ := C16_limit_core p b man l h
  refine ⟨ec, g, e1, e2, e3, e5, ?_⟩
  intro hr
  obtain ⟨s2, s3, s4, s5, ts⟩ := e8 hr
  dsimp only at s2 s3 s4 s5 ts ⊢
  generalize (if g % 2 = 1 then g else g - 1) = Gb at s2 s3 s4 s5 ts ⊢
  rw [C16_countsOf_span realEph p hp b tt, Option.some.injEq] at e6
  -- |governing instant − birth| is the span, whichever way luck runs
  have hspan : (((secs tt - secs b).natAbs : Nat) : Int) =
      (if l.fwd then realEph.termSec (Gb + 2) - secs b else secs b - realEph.termSec Gb) ∧
      0 ≤ (if l.fwd then realEph.termSec (Gb + 2) - secs b else secs b - realEph.termSec Gb) ∧
      (if l.fwd then realEph.termSec (Gb + 2) - secs b else secs b - realEph.termSec Gb) ≤ 2730240 := by
    rw [ts]; cases l.fwd <;> simp <;> omega
  rw [hspan.1] at e6
  generalize (if l.fwd then realEph.termSec (Gb + 2) - secs b else secs b - realEph.termSec Gb) = span at e6 hspan ⊢
  obtain ⟨-, h0⟩ := hspan
  refine ⟨s3, s4, h0.1, h0.2, e6.symm, ?_⟩
  -- the counts are the digits of the span (the `_spec` theorems), and the span is at most 2,730,240 s
  have c0 := C16_counts_default_spec span
  have c1 := C16_counts_china95_spec span
  have c3 := C16_counts_sect2_spec span
  unfold CLSpec.digitsDefault at c0
  unfold CLSpec.digitsChina95 at c1
  unfold CLSpec.digitsSect2 at c3
  simp only [Prod.mk.injEq] at c0 c1 c3
  rw [← e6]
  by_cases h1 : p = 1
  · subst h1; simp only [if_true]; omega
  · by_cases h3 : p = 3
    · subst h3; simp only [show ¬ ((3 : Int) = 1) by decide, if_true, if_false]; omega
    · simp only [h1, h3, if_false]; omega

/-- LunarSect1 between two existing instants in chronological order: u whole double-hours, u ≥ 0, counts = digits of u -/
theorem sect1_counts (st en : Time) (u : Int) (vs : Clock.valid st = true) (ve : Clock.valid en = true)
    (hle : secs st ≤ secs en)
    (hu : u = 12 * (jdn en.day.1 en.day.2.1 en.day.2.2 - jdn st.day.1 st.day.2.1 st.day.2.2) + (zhiIndex en.h - zhiIndex st.h)) :
    0 ≤ u ∧ countsSect1 (zhiIndex st.h) (zhiIndex en.h) (daySub en.day st.day) = ⟨u / 36, u / 3 % 12, 10 * (u % 3), 0, 0⟩ := by
  obtain ⟨_, s1, s2, s3, s4, s5, s6⟩ := (clock_valid_iff st).1 vs
  obtain ⟨_, e1, e2, e3, e4, e5, e6⟩ := (clock_valid_iff en).1 ve
  have zs := C16_zhiIndex st.h s1 s2
  have ze := C16_zhiIndex en.h e1 e2
  have h0 : 0 ≤ u := by
    unfold secs at hle
    by_cases hd : jdn st.day.1 st.day.2.1 st.day.2.2 < jdn en.day.1 en.day.2.1 en.day.2.2
    · omega
    · have := zs.2.2.2 en.h (by omega) e2
      omega
  exact ⟨h0, countsSect1_eq _ _ _ u zs.1 zs.2.1 ze.1 ze.2.1 hu h0⟩

/-- THE LunarSect1 LIMIT: whole double-hours u between the earlier and the later of (birth, governing Jie), counted as
12 per civil day plus the difference of the double-hour indices; u ≥ 0 and the counts are its digits 36 / 3 / 1 -/
theorem C16_sect1_limit (b : Time) (man : Bool) (l : Limit) (hb : Clock.valid b = true)
    (h : fromSolarTime realEph 2 b man = some l) :
    ∃ tt, Clock.valid tt = true ∧
      (let en := if secs tt < secs b then b else tt
       let st := if secs tt < secs b then tt else b
       let u := 12 * (jdn en.day.1 en.day.2.1 en.day.2.2 - jdn st.day.1 st.day.2.1 st.day.2.2) + (zhiIndex en.h - zhiIndex st.h)
       secs st ≤ secs en ∧ 0 ≤ u ∧
       (l.c.y, l.c.mo, l.c.d, l.c.h, l.c.mi) = CLSpec.digitsSect1 u ∧ 36 * l.c.y + 3 * l.c.mo + l.c.d / 10 = u ∧
       0 ≤ l.c.y ∧ 0 ≤ l.c.mo ∧ l.c.mo < 12 ∧ 0 ≤ l.c.d ∧ l.c.d ≤ 20) ∧
      addNext b l.c = some l.stop := by
  obtain ⟨ec, g, tt, e1, e2, e3, e4, e5, e6, e7, e8⟩ := C16_limit_core 2 b man l h
  refine ⟨tt, e7, ?_, e5⟩
  unfold countsOf at e6
  have ha : timeAfter b tt = decide (secs tt < secs b) := by
    rw [Bool.eq_iff_iff, C12_after_iff b tt hb e7, C12_lt_iff tt b e7 hb, decide_eq_true_eq]
  simp only [show ¬ ((2 : Int) = 1) by decide, show ¬ ((2 : Int) = 3) by decide, if_false, if_true, ha,
    decide_eq_true_eq] at e6
  dsimp only
  -- the earlier and the later of the two, whichever way round
  have hse : Clock.valid (if secs tt < secs b then tt else b) = true ∧ Clock.valid (if secs tt < secs b then b else tt) = true ∧
      secs (if secs tt < secs b then tt else b) ≤ secs (if secs tt < secs b then b else tt) := by
    split <;> exact ⟨by assumption, by assumption, by omega⟩
  generalize (if secs tt < secs b then tt else b) = st at e6 hse ⊢
  generalize (if secs tt < secs b then b else tt) = en at e6 hse ⊢
  obtain ⟨hu, hc⟩ := sect1_counts st en _ hse.1 hse.2.1 hse.2.2 rfl
  split at e6
  · cases e6
  · split at e6
    · cases e6
    · simp only [Option.some.injEq] at e6
      rw [← e6, hc]
      unfold CLSpec.digitsSect1
      dsimp only
      refine ⟨hse.2.2, hu, rfl, ?_, ?_, ?_, ?_, ?_, ?_⟩ <;> omega

/-- non-vacuity of the whole pipeline on the real data (kernel evaluation of the model): a man born 2024-02-04 12:00:00
(before Lichun: Gui-Mao year, Yin) runs backward, 9 y 9 mo 5 d 21 h 20 min, until 2033-11-10 09:20:00 — the library's answer -/
example : (fromSolarTime realEph 0 ⟨(2024, 2, 4), 12, 0, 0⟩ true).map (fun l => (l.fwd, l.c, l.stop))
    = some (false, ⟨9, 9, 5, 21, 20⟩, ⟨(2033, 11, 10), 9, 20, 0⟩) := by rw [realEph_eq_quick]; decide +kernel

/-- decade fortunes: start ages 10 apart, each decade 10 years long (end age = start age + 9), the first one
starts at (end year − birth year + 1); start years 10 apart -/
theorem C16_decade_ages (l : Limit) (k : Int) :
    decStartAge l (k + 1) = decStartAge l k + 10 ∧ decEndAge l k = decStartAge l k + 9 ∧
    decStartAge l (k + 1) = decEndAge l k + 1 ∧ decStartAge l 0 = l.stop.day.1 - l.start.day.1 + 1 ∧
    (∀ y y', decStartYear l k = some y → decStartYear l (k + 1) = some y' → y' = y + 10) := by
  unfold decStartAge decEndAge decStartAge decStartYear
  refine ⟨by omega, by omega, by omega, by omega, ?_⟩
  intro y y' h1 h2
  split at h1 <;> split at h2 <;> simp at h1 h2 <;> omega

/-- decade pillar = the month pillar stepped (k + 1) places forward (forward luck) or backward: one place per decade -/
theorem C16_decade_pillar (l : Limit) (k : Int) :
    decPillar l k = (l.ec.month + (if l.fwd then k + 1 else -(k + 1))) % 60 ∧
    decPillar l (k + 1) = SC.cycNext (decPillar l k) (if l.fwd then 1 else -1) := by
  unfold decPillar
  dsimp only
  simp only [SC.cycNext_eq]
  cases l.fwd <;> simp <;> omega

/-- yearly fortunes: age advances by one per index from (end year − birth year + 1), the year by one from the year
the limit ends, the pillar is the hour pillar stepped `age` places forward or backward: one place per year -/
theorem C16_fortune (l : Limit) (k : Int) :
    fortAge l (k + 1) = fortAge l k + 1 ∧ fortAge l 0 = l.stop.day.1 - l.start.day.1 + 1 ∧
    fortPillar l k = (l.ec.hour + (if l.fwd then fortAge l k else -(fortAge l k))) % 60 ∧
    fortPillar l (k + 1) = SC.cycNext (fortPillar l k) (if l.fwd then 1 else -1) ∧
    (∀ y, fortYear l k = some y → y = l.stop.day.1 + k) := by
  unfold fortPillar fortAge fortYear
  dsimp only
  simp only [SC.cycNext_eq]
  refine ⟨by omega, by omega, ?_, ?_, ?_⟩
  · cases l.fwd <;> simp
  · cases l.fwd <;> simp <;> omega
  · intro y h; split at h <;> simp at h; omega

/-- `next` on fortunes and decade fortunes is a group action on the index; a decade's first yearly fortune is
index 10·k, whose age is the decade's start age -/
theorem C16_step_laws (k a b : Int) (l : Limit) :
    stepIndex k 0 = k ∧ stepIndex (stepIndex k a) b = stepIndex k (a + b) ∧ stepIndex (stepIndex k a) (-a) = k ∧
    fortAge l (decStartFortune k) = decStartAge l k := by
  unfold stepIndex decStartFortune fortAge decStartAge
  omega

/-- the end age reported by the limit is the first decade's start age minus one, but at least 1 -/
theorem C16_endAge (l : Limit) : endAge l = max 1 (decStartAge l 0 - 1) := by
  unfold endAge decStartAge
  dsimp only
  omega

end Tyme

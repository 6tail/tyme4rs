import Tyme.Thm.C14
/-!
C14, second file — TOTALITY of `LunarWeek::get_first_day` and `LunarWeek::get_days`.

`C14_lunar_real_first_day` / `C14_lunar_real_days` (Thm/C14.lean) speak about calls that *return*: both functions go
through `LunarDay::next(n)` = `get_solar_day().next(n).get_lunar_day()`, and `SolarDay::get_lunar_day` is the
guess-and-walk search of C02, which the model (`Lunar.ofSolar`) runs with a fuel of 40 rounds each way.  Here: for every
well-formed lunar week of a month at least ONE lunar year inside a good interval (lunar years 2..6, 10..21, 26..234,
241..9997 of the data re-extracted from /repo in this run) both calls DO return (`Cont.ofSolar_total`: the fuel is
never exhausted; every intermediate civil date exists), the side conditions of the partial theorems (the seven days lie
in the interval and in the civil years a..b) hold automatically, and so their conclusions hold with no "if the call
returns" hypothesis.  Helpers: `Tyme/Lemmas/LunarWeekTotal.lean`.

Not covered (still resting on the exhaustive correspondence sweep `c14b.weeks` only): the lunar years 1, 7, 9, 22, 25,
235, 237, 238, 240, 9998 at the rims of the good intervals (the walk of `get_lunar_day` may there start from a month of
a junction year), and the junction years themselves (known findings).
-/
namespace Tyme
open Wk LWk Lunar Cont

/-- the side conditions of `C14_lunar_real_first_day` / `C14_lunar_real_days` hold for every well-formed week of a month
at least one lunar year inside a good interval: each of its seven day numbers firstJ .. firstJ+6 is a civil date of
the years a..b and lies between the first new moon of lunar year a and that of lunar year b+1 -/
theorem C14_lunar_week_inside_real (a b : Int) (h : LunarGoodInterval a b) (w : LunarWeek) (hw : LunarWeekOk a b w)
    (hy : a + 1 ≤ w.month.y ∧ w.month.y + 1 ≤ b) (j : Int)
    (hj : firstJ (lunarOps realEph) w ≤ j ∧ j ≤ firstJ (lunarOps realEph) w + 6) :
    a ≤ (ofJdn j).1 ∧ (ofJdn j).1 ≤ b ∧ Lunar.first realEph ⟨a, 0⟩ ≤ j ∧ j < Lunar.first realEph ⟨b + 1, 0⟩ :=
  week_days_inside (C14_lunar_real_good a b h) realEph_newYearFacts w hw hy.1 hy.2 j hj.1 hj.2

/-- TOTAL first day (interval form): for every well-formed lunar week of a month of the lunar years a+1 .. b−1 of a good
interval, `get_first_day` RETURNS, and what it returns is the lunar day (month of the interval, day 1..len) with day
number `firstJ`, which falls on the start weekday and whose civil date is the date with that day number -/
theorem C14_lunar_first_day_total_real (a b : Int) (h : LunarGoodInterval a b) (w : LunarWeek) (hw : LunarWeekOk a b w)
    (hy : a + 1 ≤ w.month.y ∧ w.month.y + 1 ≤ b) :
    ∃ r, lunarWeekFirstDay realEph w = some r ∧
      weekOfJdn (firstJ (lunarOps realEph) w) = w.start ∧
      okOn realEph a b r.1 ∧ 1 ≤ r.2 ∧ r.2 ≤ Lunar.len realEph r.1 ∧
      Lunar.first realEph r.1 + r.2 - 1 = firstJ (lunarOps realEph) w ∧
      daySolar realEph r.1 r.2 = some (ofJdn (firstJ (lunarOps realEph) w)) :=
  lunarWeekFirstDay_inside (C14_lunar_real_good a b h) realEph_newYearFacts C02_first_year_real w hw hy.1 hy.2

/-- TOTAL seven days (interval form): for every such week `get_days` RETURNS a list of exactly 7 lunar days (month of
the interval, day 1..len) with the day numbers firstJ, firstJ+1, …, firstJ+6 -/
theorem C14_lunar_days_total_real (a b : Int) (h : LunarGoodInterval a b) (w : LunarWeek) (hw : LunarWeekOk a b w)
    (hy : a + 1 ≤ w.month.y ∧ w.month.y + 1 ≤ b) :
    ∃ l, lunarWeekDays realEph w = some l ∧ l.length = 7 ∧ ∀ (k : Nat) (hk : k < l.length),
      okOn realEph a b l[k].1 ∧ 1 ≤ l[k].2 ∧ l[k].2 ≤ Lunar.len realEph l[k].1 ∧
      Lunar.first realEph l[k].1 + l[k].2 - 1 = firstJ (lunarOps realEph) w + k :=
  lunarWeekDays_inside (C14_lunar_real_good a b h) realEph_newYearFacts C02_first_year_real w hw hy.1 hy.2

/-- the three lunar years around a year of the ranges 2..6, 10..21, 26..234, 241..9997 avoid the junction years: a good
interval in which the year lies one year inside -/
theorem lunar_good_around (y : Int)
    (hy : (2 ≤ y ∧ y ≤ 6) ∨ (10 ≤ y ∧ y ≤ 21) ∨ (26 ≤ y ∧ y ≤ 234) ∨ (241 ≤ y ∧ y ≤ 9997)) :
    Good realEph (y - 1) (y + 1) :=
  lunar_good_of_free _ _ (by omega) (by omega) (by omega) fun z _ _ => by omega

/-- TOTAL first day, explicit years: for EVERY lunar month of the lunar years 2..6, 10..21, 26..234, 241..9997 of this
run's data, every start weekday and every week index below the week count, `get_first_day` RETURNS the lunar day with
day number `firstJ` (a well-formed month, day 1..len), which falls on the start weekday, and whose civil date is the date
with that day number -/
theorem C14_lunar_first_day_total_years (w : LunarWeek) (hm : WF realEph w.month) (hs : 0 ≤ w.start ∧ w.start ≤ 6)
    (hi : 0 ≤ w.index ∧ w.index < monthWeekCount realEph w.month w.start)
    (hy : (2 ≤ w.month.y ∧ w.month.y ≤ 6) ∨ (10 ≤ w.month.y ∧ w.month.y ≤ 21) ∨ (26 ≤ w.month.y ∧ w.month.y ≤ 234) ∨
      (241 ≤ w.month.y ∧ w.month.y ≤ 9997)) :
    ∃ r, lunarWeekFirstDay realEph w = some r ∧
      weekOfJdn (firstJ (lunarOps realEph) w) = w.start ∧
      WF realEph r.1 ∧ 1 ≤ r.2 ∧ r.2 ≤ Lunar.len realEph r.1 ∧
      Lunar.first realEph r.1 + r.2 - 1 = firstJ (lunarOps realEph) w ∧
      daySolar realEph r.1 r.2 = some (ofJdn (firstJ (lunarOps realEph) w)) := by
  obtain ⟨r, hr, c1, c2, c3⟩ := lunarWeekFirstDay_inside (lunar_good_around _ hy) realEph_newYearFacts C02_first_year_real w
    ⟨⟨hm, by omega, by omega⟩, hs.1, hs.2, hi.1, hi.2⟩ (by omega) (by omega)
  exact ⟨r, hr, c1, c2.1, c3⟩

/-- TOTAL seven days, explicit years: for every such week `get_days` RETURNS exactly 7 lunar days (well-formed month,
day 1..len) with the consecutive day numbers firstJ, firstJ+1, …, firstJ+6 -/
theorem C14_lunar_days_total_years (w : LunarWeek) (hm : WF realEph w.month) (hs : 0 ≤ w.start ∧ w.start ≤ 6)
    (hi : 0 ≤ w.index ∧ w.index < monthWeekCount realEph w.month w.start)
    (hy : (2 ≤ w.month.y ∧ w.month.y ≤ 6) ∨ (10 ≤ w.month.y ∧ w.month.y ≤ 21) ∨ (26 ≤ w.month.y ∧ w.month.y ≤ 234) ∨
      (241 ≤ w.month.y ∧ w.month.y ≤ 9997)) :
    ∃ l, lunarWeekDays realEph w = some l ∧ l.length = 7 ∧ ∀ (k : Nat) (hk : k < l.length),
      WF realEph l[k].1 ∧ 1 ≤ l[k].2 ∧ l[k].2 ≤ Lunar.len realEph l[k].1 ∧
      Lunar.first realEph l[k].1 + l[k].2 - 1 = firstJ (lunarOps realEph) w + k := by
  obtain ⟨l, hl, h7, hall⟩ := lunarWeekDays_inside (lunar_good_around _ hy) realEph_newYearFacts C02_first_year_real w
    ⟨⟨hm, by omega, by omega⟩, hs.1, hs.2, hi.1, hi.2⟩ (by omega) (by omega)
  exact ⟨l, hl, h7, fun k hk => ⟨(hall k hk).1.1, (hall k hk).2⟩⟩

example : LunarGoodInterval 240 9998 ∧ LunarWeekOk 240 9998 ⟨⟨2024, 0⟩, 0, 0⟩ ∧
    (240 + 1 ≤ (⟨⟨2024, 0⟩, 0, 0⟩ : LunarWeek).month.y ∧ (⟨⟨2024, 0⟩, 0, 0⟩ : LunarWeek).month.y + 1 ≤ 9998) ∧
    WF realEph ⟨2024, 0⟩ ∧ (0 : Int) < monthWeekCount realEph ⟨2024, 0⟩ 0 ∧
    (241 ≤ (2024 : Int) ∧ (2024 : Int) ≤ 9997) := by
  have hwf : WF realEph ⟨2024, 0⟩ := by
    refine ⟨by decide, by decide, ?_⟩
    show 0 < realEph.cnt 2024
    have := cnt_cases realEph 2024
    omega
  have hc : (0 : Int) < monthWeekCount realEph ⟨2024, 0⟩ 0 := by rw [realEph_eq_quick]; decide +kernel
  exact ⟨Or.inr (Or.inr (Or.inr (Or.inr ⟨rfl, rfl⟩))),
    ⟨⟨hwf, by decide, by decide⟩, by decide, by decide, by decide, hc⟩, ⟨by decide, by decide⟩, hwf, hc, by decide⟩

end Tyme

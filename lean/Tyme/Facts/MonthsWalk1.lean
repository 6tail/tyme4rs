import Tyme.Facts.Walk
import Tyme.Gen.Months0
import Tyme.Gen.Months1
namespace Tyme
open Packed Gen

theorem months_walk1 :
    adjChunks 1024 yearAll monthsPart1 2500 (lastRec 1024 monthsPart0) = some (lastRec 1024 monthsPart1) := by decide +kernel

theorem months_len1 : (records 1024 monthsPart1).length = 2500 := by rw [records_length]; decide +kernel

end Tyme

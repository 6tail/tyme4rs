import Tyme.Facts.Preds
import Tyme.Facts.C13Preds
import Tyme.Facts.C15Preds
/-! The two packed tables are each walked ONCE by the kernel (`Facts/TermsWalk*`, `Facts/MonthsWalk*`), with the
conjunction of every predicate of `Preds`, `C13Preds` and `C15Preds`; `Facts/TermsFact`, `Facts/MonthsFact` split the
conjunction into the single facts. -/
namespace Tyme
open Packed

/-- everything asked of term record `b` with global index `g`, `a` being the record before it. The three window
predicates speak of terms 0, 2, 3 of a year only (`termWindows_trivial`), so they are not evaluated on the others. -/
def termAll (g a b : Nat) : Bool :=
  adjP termPair g a b && termRepr g b && termCalOK g b &&
    (Nat.blt 3 (g % 24) || (termWinOK g b && termWin g b && solDec g b))

theorem termWindows_trivial (g r : Nat) (h : 3 < g % 24) :
    termWinOK g r = true ∧ termWin g r = true ∧ solDec g r = true := by
  have e0 : (g % 24 == 0) = false := by simp; omega
  have e2 : (g % 24 == 2) = false := by simp; omega
  have e3 : (g % 24 == 3) = false := by simp; omega
  simp [termWinOK, termWin, solDec, e0, e2, e3]

theorem termAll_spec {g a b : Nat} (h : termAll g a b = true) :
    adjP termPair g a b = true ∧ termRepr g b = true ∧ termCalOK g b = true ∧
      termWinOK g b = true ∧ termWin g b = true ∧ solDec g b = true := by
  simp only [termAll, Bool.and_eq_true, Bool.or_eq_true, Nat.blt_eq] at h
  obtain ⟨⟨⟨h1, h2⟩, h3⟩, h4 | ⟨⟨h4, h5⟩, h6⟩⟩ := h
  · exact ⟨h1, h2, h3, termWindows_trivial g b h4⟩
  · exact ⟨h1, h2, h3, h4, h5, h6⟩

/-- everything asked of lunar-year record `b` of year `y`, `a` being the record of year `y − 1` -/
def yearAll (y a b : Nat) : Bool :=
  adjP yearPair y a b && adjP suiPair y a b && yearLeapOK y b && yearShuoOK y b && yearNewYearOK y b && yearWin y b

end Tyme

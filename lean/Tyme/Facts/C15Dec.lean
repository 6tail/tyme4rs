import Tyme.Facts.C13Win
/-!
C15 table fact about the solar-term data extracted from /repo (`terms_dec_fact`, part of the one kernel walk over all
240,000 records), lifted here: the winter solstice that closes civil year y (term 0 of year y+1, global index 24·y)
falls on a day of December y, for every representable one (y = 1..9999).
-/
namespace Tyme
open Packed Gen

/-- December 1 of y is 31 days before January 1 of y + 1: the closed form follows from `ysN_eq` -/
theorem dec1N_eq (y : Nat) : ((dec1N y : Nat) : Int) = jdn (y : Int) 12 1 := by
  have a : ((ysN (y + 1) : Nat) : Int) = jdn ((y : Int) + 1) 1 1 := ysN_eq (y + 1) (by omega)
  have b := jdn_month_succ (y : Int) 12 (by decide) (by decide)
  rw [if_pos rfl, if_pos rfl, show monthLen (y : Int) 12 = 31 by rw [monthLen_eq]; simp] at b
  have e : dec1N y + 31 = ysN (y + 1) := by
    unfold dec1N ysN
    rw [Nat.add_sub_cancel, show y + 1 + 4715 = y + 4716 by omega]
    split <;> split <;> omega
  omega

theorem realEph_solstice_december (y : Nat) (h1 : 1 ≤ y) (h2 : y ≤ 9999) :
    jdn (y : Int) 12 1 ≤ realEph.termDay (24 * y) ∧ realEph.termDay (24 * y) ≤ jdn (y : Int) 12 1 + 30 := by
  have hp := term_fact terms_dec_fact (24 * y) (by omega)
  have e24 : (24 * y % 24 == 0) = true := by simp
  have ediv : 24 * y / 24 = y := by omega
  simp only [solDec, e24, tDayRaw_ne_zero (24 * y) (by omega) (by omega), ediv, Bool.not_true, Bool.false_or,
    Bool.and_eq_true, Nat.ble_eq] at hp
  rw [← dec1N_eq y]
  simp only [realEph]
  omega

end Tyme

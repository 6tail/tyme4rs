import Tyme.Lemmas.FestChecks
import Tyme.Gen.C20
/- C20 table facts of the holiday table (built in parallel with Facts/C20.lean). -/
namespace Tyme
open Fest FestSpec Gen.C20

/-- holiday table, one evaluation (the conjuncts share the walk over the 10,673 bytes and the cut into 821 records):
length a multiple of 13; the record shape `\d{8}[0-1][0-8][+|-]\d{2}` matches at every multiple of 13 and at NO other
offset; every record a real civil date with a name index below the name count and canonical digits; dates strictly
increasing; the year blocks concatenate to the table, the years are contiguous, each record is the first of its block
with its date prefix; every record's signed offset points at a record of the table that is a rest day -/
theorem C20_tf_holiday : HolWF holidayNames.length holidayData ∧ targetWalk [] (holRecs holidayData) = true := by
  have h : holidayData.length % 13 = 0 ∧ alignedWalk holidayData 0 = true ∧
      (chunksOf holidayData).all (holRecOk holidayNames.length) = true ∧
      strictInc ((holRecs holidayData).map HolRec.key) = true ∧ blocksOk (chunksOf holidayData) = true ∧
      targetWalk [] (holRecs holidayData) = true := by decide +kernel
  exact ⟨⟨h.1, h.2.1, h.2.2.1, h.2.2.2.1, h.2.2.2.2.1⟩, h.2.2.2.2.2⟩

end Tyme

import Tyme.Model.RealEph
import Tyme.Facts.TermsWalk0
import Tyme.Facts.TermsWalk1
import Tyme.Facts.TermsWalk2
import Tyme.Facts.TermsWalk3
/-!
Table facts about the solar-term data extracted from /repo (Gen/Terms*): all 240,000 terms of years 1..10000,
kernel-checked part by part in one walk (`Facts/TermsWalk*.lean`), glued here by `adjChunks_append` and split into
the single facts.
-/
namespace Tyme
open Packed Gen

theorem terms_walk : (adjChunks 72 termAll Gen.termsChunks 0 0).isSome = true := by
  unfold Gen.termsChunks
  simp only [adjChunks_append, terms_walk0, terms_walk1, terms_walk2, terms_walk3, terms_walk4, terms_walk5,
    terms_walk6, terms_walk7, terms_len0, terms_len1, terms_len2, terms_len3, terms_len4, terms_len5, terms_len6,
    records_append, List.length_append, Nat.zero_add, Nat.reduceAdd]
  rfl

/-- TABLE FACT (complete enumeration): adjacent terms are 14.6–15.8 days apart, strictly increasing. -/
theorem terms_inc_fact : adjRec 72 termPair Gen.termsChunks = true :=
  adjRec_of_walk terms_walk fun _ _ _ h => (termAll_spec h).1

/-- TABLE FACT: exactly term 0 and the terms after (10000, 1) are not representable as civil instants. -/
theorem terms_repr_fact : allRec 72 termRepr Gen.termsChunks = true :=
  allRec_of_walk terms_walk fun _ _ _ h => (termAll_spec h).2.1

/-- TABLE FACT (C05 i): for every term of years 1961..10000 the calendar-making day equals the civil day of the
precise instant (an instant in the last half second of a day being reported as 00:00:00 of the next day). -/
theorem terms_cal_fact : allRec 72 termCalOK Gen.termsChunks = true :=
  allRec_of_walk terms_walk fun _ _ _ h => (termAll_spec h).2.2.1

/-- TABLE FACT (stated only; the proofs use the sharper `terms_win13_fact`): winter solstice before January 1, Dahan on/after
it, Lichun 1..40 days after it — every year. -/
theorem terms_win_fact : allRec 72 termWinOK Gen.termsChunks = true :=
  allRec_of_walk terms_walk fun _ _ _ h => (termAll_spec h).2.2.2.1

/-- TABLE FACT (C13): Lichun 24..36 days after January 1, the winter solstice at least 9 days before it. -/
theorem terms_win13_fact : allRec 72 termWin Gen.termsChunks = true :=
  allRec_of_walk terms_walk fun _ _ _ h => (termAll_spec h).2.2.2.2.1

/-- TABLE FACT (C15): every winter solstice falls in December. -/
theorem terms_dec_fact : allRec 72 solDec Gen.termsChunks = true :=
  allRec_of_walk terms_walk fun _ _ _ h => (termAll_spec h).2.2.2.2.2

theorem termRecs_length : termRecs.length = 240000 := by
  unfold termRecs Gen.termsChunks
  simp only [records_append, List.length_append, terms_len0, terms_len1, terms_len2, terms_len3,
    terms_len4, terms_len5, terms_len6, terms_len7]

end Tyme

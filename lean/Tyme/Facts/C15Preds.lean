import Tyme.Model.Eph
/-! C15 table-fact predicate: every winter solstice falls in December (static; the fact, `terms_dec_fact`, is decided in the
one kernel walk over the term table, Facts/Walk.lean, and lifted in Facts/C15Dec.lean). -/
namespace Tyme

/-- day number of December 1 of civil year y in `Nat` arithmetic (= `jdn y 12 1`, see `dec1N_eq`) -/
def dec1N (y : Nat) : Nat :=
  if y ≥ 1582 then (1461 * (y + 4716)) / 4 + 400 + y / 100 / 4 - y / 100 - 1524
  else (1461 * (y + 4716)) / 4 + 398 - 1524

/-- term record r with global index g: if g = 24·y (term 0 of year y+1: the winter solstice of December y) and the
term is representable, its civil day lies in December 1..31 of year y -/
def solDec (g r : Nat) : Bool :=
  !(g % 24 == 0) || Rec.tDayRaw r == 0 ||
    (Nat.ble (dec1N (g / 24)) (Rec.tDay r) && Nat.ble (Rec.tDay r) (dec1N (g / 24) + 30))

end Tyme

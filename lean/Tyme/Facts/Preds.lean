import Tyme.Model.Eph
/-! Predicates of the table facts (static; the facts themselves are kernel-checked part by part in one walk per table,
Facts/TermsWalk*.lean and Facts/MonthsWalk*.lean, glued and split into the single facts in Facts/TermsFact.lean and
Facts/MonthsFact.lean). -/
namespace Tyme
open Packed

/-! #### months (one 512-bit record per lunar year) -/

/-- months i..i+n-1 of year record r: first = cur, abut, 29/30 days -/
def slotsOK (r : Nat) : Nat → Nat → Nat → Bool
  | 0, _, _ => true
  | n+1, i, cur =>
    Rec.sFirst (Rec.slot r i) == cur && (Rec.sLen (Rec.slot r i) == 29 || Rec.sLen (Rec.slot r i) == 30) &&
      slotsOK r n (i + 1) (cur + Rec.sLen (Rec.slot r i))

def yearEnd (r : Nat) : Nat :=
  Rec.sFirst (Rec.slot r (Rec.yCount r - 1)) + Rec.sLen (Rec.slot r (Rec.yCount r - 1))

def yearInner (r : Nat) : Bool :=
  decide (Rec.yLeap r ≤ 12) && Rec.yCount r == (if Rec.yLeap r > 0 then 13 else 12) &&
  slotsOK r (Rec.yCount r) 0 (Rec.sFirst (Rec.slot r 0))

def yearLenOK (n : Nat) : Bool := (decide (353 ≤ n) && decide (n ≤ 355)) || (decide (383 ≤ n) && decide (n ≤ 385))

/-- lunar years whose own months or whose junction to the next year do not tile (D4) -/
def badYear (y : Nat) : Bool := y == 8 || y == 23 || y == 24 || y == 236 || y == 239

def yearPair (y a b : Nat) : Bool :=
  (yearInner a && Rec.sFirst (Rec.slot b 0) == yearEnd a && yearLenOK (yearEnd a - Rec.sFirst (Rec.slot a 0)))
  || badYear y

def yearLeapOK (_ r : Nat) : Bool :=
  decide (Rec.yLeap r ≤ 12) && Rec.yCount r == (if Rec.yLeap r > 0 then 13 else 12)

/-! #### C04: the no-major-term rule, evaluated on a pair of consecutive year records
(a = lunar year y−1, b = lunar year y; b carries the 13 zhongqi days of the solstice year ending in December y) -/

/-- number and leap flag of the month with index idx in a year whose leap month is lp -/
def numOf (lp idx : Nat) : Nat × Bool :=
  if lp = 0 ∨ idx < lp then (idx + 1, false) else if idx = lp then (lp, true) else (idx, false)

/-- index of the month of year record r containing day q (searching idx i.., n months left) -/
def findMonth (r q : Nat) : Nat → Nat → Option Nat
  | 0, _ => none
  | n+1, i =>
    if Nat.ble (Rec.sFirst (Rec.slot r i)) q && Nat.blt q (Rec.sFirst (Rec.slot r i) + Rec.sLen (Rec.slot r i))
    then some i else findMonth r q n (i + 1)

/-- does [f, f+l) contain one of the zhongqi days k.. (n left) of record b -/
def hasQi (b f l : Nat) : Nat → Nat → Bool
  | 0, _ => false
  | n+1, k => (Nat.ble f (Rec.yQi b k) && Nat.blt (Rec.yQi b k) (f + l)) || hasQi b f l n (k + 1)

/-- walk the months idx i.. (n left) of record r (leap month lp; zhongqi from b): each must carry the number the
rule prescribes. State: previous number, leap already placed; `thirteen` = the solstice year has 13 lunations.
Returns the final (number, leapPlaced) or none on a mismatch. -/
def ruleWalk (thirteen : Bool) (b r lp : Nat) : Nat → Nat → Nat → Bool → Option (Nat × Bool)
  | 0, _, prev, used => some (prev, used)
  | n+1, i, prev, used =>
    let f := Rec.sFirst (Rec.slot r i)
    let l := Rec.sLen (Rec.slot r i)
    let isLeapByRule := thirteen && !used && !hasQi b f l 13 0
    let expected : Nat × Bool := if isLeapByRule then (prev, true) else (prev % 12 + 1, false)
    if numOf lp i == expected then ruleWalk thirteen b r lp n (i + 1) expected.1 (used || isLeapByRule) else none

/-- years outside the claim: before 27 (first reform period) and the AD 237–240 reform -/
def suiExcluded (y : Nat) : Bool := Nat.blt y 27 || y == 238 || y == 239 || y == 240

/-- C04 for one solstice year: a = record of lunar year y−1, b = record of lunar year y (the solstice year from
the winter solstice of December y−1 to that of December y). The adjacent-pair index k has a = year k, b = year k+1. -/
def suiCore (a b : Nat) : Bool :=
  (match findMonth a (Rec.yQi b 0) (Rec.yCount a) 0, findMonth b (Rec.yQi b 12) (Rec.yCount b) 0 with
   | some A, some B =>
     let n := Rec.yCount a - A + B     -- lunations after A up to and including B
     numOf (Rec.yLeap a) A == (11, false) && numOf (Rec.yLeap b) B == (11, false) && (n == 12 || n == 13) &&
     (match ruleWalk (n == 13) b a (Rec.yLeap a) (Rec.yCount a - 1 - A) (A + 1) 11 false with
      | none => false
      | some (p, u) =>
        match ruleWalk (n == 13) b b (Rec.yLeap b) (B + 1) 0 p u with
        | none => false
        | some (p2, u2) => p2 == 11 && (u2 == (n == 13)))
   | _, _ => false)

def suiPair (k a b : Nat) : Bool := suiExcluded (k + 1) || suiCore a b

/-! #### C08: windows of the lunar new year and of the terms around January 1 -/

/-- day number of January 1 of civil year y in Nat arithmetic (= jdn y 1 1 for y ≥ 1) -/
def jan1 (y : Nat) : Nat :=
  365 * (y + 4715) + (y + 4715) / 4 + 429 + (if 1583 ≤ y then 2 + (y - 1) / 100 / 4 else 0) - (if 1583 ≤ y then (y - 1) / 100 else 0) - 1524

/-- lunar new year of year y falls between 5 days before and 59 days after January 1 of civil year y (y ≥ 1) -/
def yearNewYearOK (y r : Nat) : Bool :=
  y == 0 || (Nat.ble (jan1 y) (Rec.sFirst (Rec.slot r 0) + 5) && Nat.ble (Rec.sFirst (Rec.slot r 0)) (jan1 y + 59))

/-- term windows relative to January 1 of the term's year y = g/24 + 1 (representable terms only):
index 0 (winter solstice) before Jan 1; index 2 on/after Jan 1; index 3 (Lichun) 1..40 days after Jan 1 -/
def termWinOK (g r : Nat) : Bool :=
  Rec.tDayRaw r == 0 ||
  (if g % 24 == 0 then Nat.blt (Rec.tDay r) (jan1 (g / 24 + 1))
   else if g % 24 == 2 then Nat.ble (jan1 (g / 24 + 1)) (Rec.tDay r)
   else if g % 24 == 3 then Nat.blt (jan1 (g / 24 + 1)) (Rec.tDay r) && Nat.ble (Rec.tDay r) (jan1 (g / 24 + 1) + 40)
   else true)

/-! #### C05 clause (i): calendar path = precise path -/

def shuoSlots (r : Nat) : Nat → Nat → Bool
  | 0, _ => true
  | n+1, i => Rec.yShuoCode r i == 1 && shuoSlots r n (i + 1)

/-- lunar years 1961..8000: the first day of every month is the civil day of the precisely computed conjunction -/
def yearShuoOK (y r : Nat) : Bool := Nat.blt y 1961 || Nat.blt 8000 y || shuoSlots r (Rec.yCount r) 0

/-! #### terms (72-bit records, global index 24*(y-1)+i) -/

/-- seconds on the civil time line of a term record -/
def recSec (r : Nat) : Nat := 86400 * Rec.tDay r + Rec.tSod r

/-- adjacent terms (both representable): strictly increasing instants 14.6–15.8 days apart, term days 14–16
apart, second-of-day < 86400 -/
def termPair (_ a b : Nat) : Bool :=
  Rec.tDayRaw a == 0 || Rec.tDayRaw b == 0 ||
  (Nat.ble (recSec a + 1261440) (recSec b) && Nat.ble (recSec b) (recSec a + 1365120) &&
   Nat.ble (Rec.tDay a + 14) (Rec.tDay b) && Nat.ble (Rec.tDay b) (Rec.tDay a + 16) &&
   Nat.blt (Rec.tSod a) 86400 && Nat.blt (Rec.tSod b) 86400)

/-- representability pattern: exactly term 0 (the winter solstice of December of year 0) and the terms
after (10000, 1) are not representable -/
def termRepr (g r : Nat) : Bool :=
  (Rec.tDayRaw r == 0) == (g == 0 || Nat.ble 239978 g)

/-- terms of years 1961.. (global index ≥ 24·1960): the calendar-making day is the civil day of the precise instant; the
library reports an instant in the last half second of a day as 00:00:00 of the next day, which is the only other case -/
def termCalOK (g r : Nat) : Bool :=
  Nat.blt g 47040 || Rec.tDayRaw r == 0 || Rec.tQi r == Rec.tDay r || (Rec.tDay r == Rec.tQi r + 1 && Rec.tSod r == 0)

end Tyme

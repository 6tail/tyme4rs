import Tyme.Model.RealEph
import Tyme.Facts.MonthsWalk0
import Tyme.Facts.MonthsWalk1
import Tyme.Facts.MonthsWalk2
import Tyme.Facts.MonthsWalk3
/-!
Table facts about the lunar-month data extracted from /repo (Gen/Months*): decided by kernel evaluation over ALL
10,000 lunar years (complete enumeration; one walk, part by part in `Facts/MonthsWalk*.lean`, glued and split here).
The five exception years are the D4 junctions (known findings, see known_findings.json).
-/
namespace Tyme
open Packed Gen

theorem months_walk : (adjChunks 1024 yearAll Gen.monthsChunks 0 0).isSome = true := by
  unfold Gen.monthsChunks
  simp only [adjChunks_append, months_walk0, months_walk1, months_walk2, months_walk3,
    months_len0, months_len1, months_len2, records_append, List.length_append, Nat.zero_add, Nat.reduceAdd]
  rfl

theorem yearAll_spec {y a b : Nat} (h : yearAll y a b = true) :
    adjP yearPair y a b = true ∧ adjP suiPair y a b = true ∧ yearLeapOK y b = true ∧ yearShuoOK y b = true ∧
      yearNewYearOK y b = true ∧ yearWin y b = true := by
  simp only [yearAll, Bool.and_eq_true] at h
  obtain ⟨⟨⟨⟨⟨h1, h2⟩, h3⟩, h4⟩, h5⟩, h6⟩ := h
  exact ⟨h1, h2, h3, h4, h5, h6⟩

/-- TABLE FACT (complete enumeration, 10,000 year records / 123,684 lunations). -/
theorem years_tile_fact : adjRec 1024 yearPair Gen.monthsChunks = true :=
  adjRec_of_walk months_walk fun _ _ _ h => (yearAll_spec h).1

/-- TABLE FACT (C04): in every solstice year 27..9999 except 238, 239, 240 the table's month numbers and leap
month are exactly what the no-major-term rule prescribes from the library's own new-moon and zhongqi days. -/
theorem years_sui_fact : adjRec 1024 suiPair Gen.monthsChunks = true :=
  adjRec_of_walk months_walk fun _ _ _ h => (yearAll_spec h).2.1

/-- TABLE FACT: every year record has leap month ≤ 12 and 12 or 13 months (no exceptions). -/
theorem years_leap_fact : allRec 1024 yearLeapOK Gen.monthsChunks = true :=
  allRec_of_walk months_walk fun _ _ _ h => (yearAll_spec h).2.2.1

/-- TABLE FACT (C05 i): for every lunar month of lunar years 1961..8000 the table's first day equals the civil day
(UTC+8) on which the conjunction computed by the full-precision inverse solver falls. -/
theorem years_shuo_fact : allRec 1024 yearShuoOK Gen.monthsChunks = true :=
  allRec_of_walk months_walk fun _ _ _ h => (yearAll_spec h).2.2.2.1

/-- TABLE FACT (stated only; the proofs use `years_win_fact`): the lunar new year of every year 1..9999 lies within
[Jan 1 − 5 d, Jan 1 + 59 d] of the same civil year. -/
theorem years_newyear_fact : allRec 1024 yearNewYearOK Gen.monthsChunks = true :=
  allRec_of_walk months_walk fun _ _ _ h => (yearAll_spec h).2.2.2.2.1

/-- TABLE FACT (C13): the same window in the closed form `ysN`; lunar year 0 begins before 0001-01-01. -/
theorem years_win_fact : allRec 1024 yearWin Gen.monthsChunks = true :=
  allRec_of_walk months_walk fun _ _ _ h => (yearAll_spec h).2.2.2.2.2

theorem yearRecs_length : yearRecs.length = 10000 := by
  unfold yearRecs Gen.monthsChunks
  simp only [records_append, List.length_append, months_len0, months_len1, months_len2, months_len3]

end Tyme

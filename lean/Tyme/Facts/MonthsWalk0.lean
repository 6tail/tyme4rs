import Tyme.Facts.Walk
import Tyme.Gen.Months0
namespace Tyme
open Packed Gen

theorem months_walk0 :
    adjChunks 1024 yearAll monthsPart0 0 0 = some (lastRec 1024 monthsPart0) := by decide +kernel

theorem months_len0 : (records 1024 monthsPart0).length = 2500 := by rw [records_length]; decide +kernel

end Tyme

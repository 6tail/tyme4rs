import Tyme.Facts.TermsFact
/-! Lifting of the kernel-decided term-table facts to statements about `realEph`. -/
namespace Tyme
open Packed

theorem term_fact {p : Nat → Nat → Bool} (h : allRec 72 p Gen.termsChunks = true) (g : Nat) (hg : g < 240000) :
    p g (termRecs.getD g 0) = true :=
  allRec_getD h g (by show g < termRecs.length; rw [termRecs_length]; exact hg)

theorem term_pair_fact {p : Nat → Nat → Nat → Bool} (h : adjRec 72 p Gen.termsChunks = true) (g : Nat)
    (hg : g + 1 < 240000) : p g (termRecs.getD g 0) (termRecs.getD (g + 1) 0) = true :=
  adjRec_getD h g (by show g + 1 < termRecs.length; rw [termRecs_length]; exact hg)

theorem tDay_eq_zero_iff (r : Nat) : Rec.tDay r = 0 ↔ Rec.tDayRaw r = 0 := by
  unfold Rec.tDay Rec.BASE
  split <;> simp_all

/-- representable terms: global index 1 .. 239977; in the raw field, which is what the table predicates test first -/
theorem tDayRaw_eq_zero_iff (g : Nat) (h : g < 240000) : Rec.tDayRaw (termRecs.getD g 0) = 0 ↔ (g = 0 ∨ 239978 ≤ g) := by
  have := term_fact terms_repr_fact g h
  rw [termRepr, beq_iff_eq, Bool.eq_iff_iff] at this
  simpa only [beq_iff_eq, Bool.or_eq_true, Nat.ble_eq] using this

theorem realEph_term_repr (g : Nat) (h : g < 240000) : (realEph.termDay g = 0) ↔ (g = 0 ∨ 239978 ≤ g) := by
  rw [← tDayRaw_eq_zero_iff g h, ← tDay_eq_zero_iff]
  exact Int.natCast_eq_zero

theorem tDayRaw_ne_zero (g : Nat) (h1 : 1 ≤ g) (h2 : g ≤ 239977) : (Rec.tDayRaw (termRecs.getD g 0) == 0) = false :=
  beq_false_of_ne fun h => by have := (tDayRaw_eq_zero_iff g (by omega)).1 h; omega

/-- LIFTED FACT: adjacent representable terms are strictly increasing, 14.6–15.8 days apart in seconds,
their civil days 14–16 apart. -/
theorem realEph_termInc (g : Nat) (h1 : 1 ≤ g) (h2 : g + 1 ≤ 239977) :
    realEph.termSec g + 1261440 ≤ realEph.termSec (g + 1) ∧ realEph.termSec (g + 1) ≤ realEph.termSec g + 1365120 ∧
    realEph.termDay g + 14 ≤ realEph.termDay (g + 1) ∧ realEph.termDay (g + 1) ≤ realEph.termDay g + 16 ∧
    0 ≤ realEph.termSod g ∧ realEph.termSod g < 86400 ∧ 0 ≤ realEph.termSod (g + 1) ∧ realEph.termSod (g + 1) < 86400 := by
  have hp := term_pair_fact terms_inc_fact g (by omega)
  simp only [termPair, tDayRaw_ne_zero g h1 (by omega), tDayRaw_ne_zero (g + 1) (by omega) h2, Bool.false_or,
    Bool.and_eq_true, Nat.ble_eq, Nat.blt_eq, recSec] at hp
  simp only [realEph, Eph.termSec]
  omega

end Tyme

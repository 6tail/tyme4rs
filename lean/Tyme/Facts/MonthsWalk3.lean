import Tyme.Facts.Walk
import Tyme.Gen.Months2
import Tyme.Gen.Months3
namespace Tyme
open Packed Gen

theorem months_walk3 :
    adjChunks 1024 yearAll monthsPart3 7500 (lastRec 1024 monthsPart2) = some (lastRec 1024 monthsPart3) := by decide +kernel

theorem months_len3 : (records 1024 monthsPart3).length = 2500 := by rw [records_length]; decide +kernel

end Tyme

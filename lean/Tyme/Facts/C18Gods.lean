import Tyme.Facts.C18Defs
/-! C18 table fact (kernel enumeration of the generated data, `decide +kernel`): day spirits (`DAY_GODS` against
`God::get_day_gods`), all 12 month branches × 60 day pillars; re-checked whenever the Gen data change. -/
namespace Tyme
open Almanac Gen

theorem C18_fact_gods : ∀ mb, mb < 12 → godsRowOk mb = true := by decide +kernel

end Tyme

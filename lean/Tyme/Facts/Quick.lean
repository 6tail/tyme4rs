import Tyme.Model.RealEph
/-! `realEph` with every look-up read out of its chunk (`Packed.recAt`): equal to `realEph`, and what the kernel is given
when a model is evaluated at a concrete date (`rw [realEph_eq_quick]; decide +kernel`), since a look-up into `realEph`
itself unpacks every record before the one asked for (tens of thousands for a date of our century). -/
namespace Tyme
open Packed

def quickEph : Eph where
  leap y := if y = -1 then 11 else if 0 ≤ y then Rec.yLeap (recAt 1024 Gen.monthsChunks y.toNat) else 0
  mFirst y i := Rec.sFirst (Rec.slot (recAt 1024 Gen.monthsChunks y.toNat) i)
  mLen y i := Rec.sLen (Rec.slot (recAt 1024 Gen.monthsChunks y.toNat) i)
  qiDay t := Rec.tQi (recAt 72 Gen.termsChunks t)
  termDay t := Rec.tDay (recAt 72 Gen.termsChunks t)
  termSod t := Rec.tSod (recAt 72 Gen.termsChunks t)

theorem realEph_eq_quick : realEph = quickEph := by
  simp only [realEph, quickEph, yearRecs, termRecs, records_getD]

end Tyme

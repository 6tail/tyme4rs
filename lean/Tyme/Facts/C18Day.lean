import Tyme.Facts.C18Defs
/-! C18 table fact (kernel enumeration of the generated data, `decide +kernel`): day activities (`DAY_TABOO` against
`Taboo::get_day_recommends/avoids`), all 12 month branches × 60 day pillars; re-checked whenever the Gen data change. -/
namespace Tyme
open Almanac Gen

theorem C18_fact_day : ∀ mb, mb < 12 → tabooRowOk rawDayTaboo C18Ext.dayRec C18Ext.dayAvoid mb = true := by
  decide +kernel

end Tyme

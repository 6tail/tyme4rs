import Tyme.Facts.Walk
import Tyme.Gen.Months1
import Tyme.Gen.Months2
namespace Tyme
open Packed Gen

theorem months_walk2 :
    adjChunks 1024 yearAll monthsPart2 5000 (lastRec 1024 monthsPart1) = some (lastRec 1024 monthsPart2) := by decide +kernel

theorem months_len2 : (records 1024 monthsPart2).length = 2500 := by rw [records_length]; decide +kernel

end Tyme

import Tyme.Lemmas.FestChecks
import Tyme.Gen.C20
/- C20 table facts of the two festival tables: closed Bool computations on the data dumped from the crate
(Tyme/Gen/C20.lean, regenerated on every run), decided by the kernel (`decide +kernel`: complete evaluation, no
sampling); one evaluation per table. -/
namespace Tyme
open Fest FestSpec Gen.C20

/-- civil festivals: the by-date regex look-up is the first record with that month-day, for every month 0..12 × day
0..31; the by-index look-up is the record with that index, for every index below the name count; records founded
1583..9999, month-day exists in every year, indices and month-days pairwise distinct -/
theorem C20_tf_solar_wf : SolarWF solarNames.length solarData := by
  have h : 0 < solarNames.length ∧ solarYmdOk solarData = true ∧ solarIdxOk solarNames.length solarData = true ∧
      solarRecsOk solarNames.length solarData = true := by decide +kernel
  exact ⟨h.1, h.2.1, h.2.2.1, h.2.2.2⟩

/-- lunar festivals: the by-index look-up is the record at that position, as many records as names; the by-date look-up
of fixed-date records, for every month -12..12 × day 0..31; `find_iter` of the term pattern yields exactly the term
records, in order; the eve pattern finds the eve record; index = position, fixed dates pairwise distinct, term records in
index order, one eve record after them -/
theorem C20_tf_lunar_wf : LunarWF lunarNames.length lunarData := by
  have h : lunarIdxOk lunarNames.length lunarData = true ∧ lunarYmdOk lunarData = true ∧ lunarTermsOk lunarData = true ∧
      lunarEveOk lunarData = true ∧ lunarStructOk (lunarRecs lunarData) = true := by decide +kernel
  exact ⟨h.1, h.2.1, h.2.2.1, h.2.2.2.1, h.2.2.2.2⟩

/-- all three data strings are pure ASCII (so the byte-level reading of `\\d` is the regex crate's) -/
theorem C20_tf_ascii : (solarData ++ lunarData ++ holidayData).all (fun b => decide (b < 128)) = true := by
  simp only [holidayData, List.all_append, Bool.and_eq_true]
  decide +kernel

end Tyme

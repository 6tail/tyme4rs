import Tyme.Model.Eph
/-! Predicates of the C13 table facts (static). The facts themselves are decided in the one kernel walk per table
(Facts/Walk.lean: `termAll`, `yearAll`; `terms_win13_fact`, `years_win_fact`) over the packed tables Gen/Terms*, Gen/Months*
that tools/gen_eph.py extracts from /repo. Nat only (kernel evaluation). -/
namespace Tyme

/-- day number of January 1 of civil year Y ≥ 1 in closed form (= `jdn Y 1 1`, lemma `ysN_eq`) -/
def ysN (Y : Nat) : Nat :=
  if 1583 ≤ Y then 1461 * (Y + 4715) / 4 + 2 + (Y - 1) / 100 / 4 - (1095 + (Y - 1) / 100)
  else 1461 * (Y + 4715) / 4 - 1095

/-- where the terms lie in the civil year: Lichun (index 3) of term-year Y falls 24..36 days after January 1 of Y;
the winter solstice (index 0) of term-year Y falls at least 9 days before January 1 of Y (i.e. in December of Y−1) -/
def termWin (g r : Nat) : Bool :=
  if g % 24 == 3 then
    Rec.tDayRaw r == 0 || (Nat.ble (ysN (g / 24 + 1) + 24) (Rec.tDay r) && Nat.ble (Rec.tDay r) (ysN (g / 24 + 1) + 36))
  else if g % 24 == 0 then Rec.tDayRaw r == 0 || Nat.ble (Rec.tDay r + 9) (ysN (g / 24 + 1))
  else true

/-- where the lunar new year lies in the civil year: day 1 of lunar year y falls between 5 days before and 59 days after
January 1 of civil year y (y ≥ 1); lunar year 0 begins before 0001-01-01 -/
def yearWin (y r : Nat) : Bool :=
  if y == 0 then Nat.ble (Rec.sFirst (Rec.slot r 0)) 1721424
  else Nat.ble (ysN y) (Rec.sFirst (Rec.slot r 0) + 5) && Nat.ble (Rec.sFirst (Rec.slot r 0)) (ysN y + 59)

end Tyme

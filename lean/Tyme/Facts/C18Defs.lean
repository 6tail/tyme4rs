import Tyme.Lemmas.Almanac
import Tyme.Model.AlmanacTables
/-!
C18 table facts — the Boolean checkers the kernel evaluates on the generated data (one sequential walk per table
row) and the lemmas that turn `checker = true` into the per-pair statements of `Thm/C18.lean`.
The `decide +kernel` evaluations themselves are in `C18Gods.lean`, `C18Day.lean`, `C18Hour.lean`, `C18Misc.lean`,
`C18Names.lean`.
-/
namespace Tyme.Almanac
open Tyme.AlmanacSpec Tyme.Gen

/-- what C18 asks of the spirits of one (month branch, day pillar) pair, with the record and the values exhibited -/
structure GodsPair (monthBranch day : Nat) (r : List Nat) (e : List Nat) : Prop where
  /-- the leftmost match of `;HH(.[^;]*)` in the month's string exists and captures `r` -/
  found : godRecord rawDayGods monthBranch day = some (some r)
  /-- `r` is an even number of hex digits whose pairs are the numbers `e` -/
  parses : fieldValues r = some e
  /-- every number is a position of `GOD_NAMES` (so `from_index` never wraps) -/
  inRange : ∀ v ∈ e, v < godCount
  /-- at least one spirit -/
  nonempty : e ≠ []
  /-- the API returns exactly these indices -/
  api : extGods monthBranch day = some e

/-- what C18 asks of the activities of one pair: `sup` = row of the table (month branch resp. hour branch),
`sub` = day pillar; `fr`, `fa` the two fields of the record, `er`, `ea` their values -/
structure TabooPair (tbl : List (List Nat)) (extR extA : Option (List Nat)) (sup sub : Nat)
    (fr fa : List Nat) (er ea : List Nat) : Prop where
  /-- the record exists and consists of exactly two `,`-separated fields -/
  record : ∃ rec, tabooRecord tbl sup sub = some rec ∧ splitOn 44 rec = [fr, fa]
  parsesR : fieldValues fr = some er
  parsesA : fieldValues fa = some ea
  inRangeR : ∀ v ∈ er, v < tabooCount
  inRangeA : ∀ v ∈ ea, v < tabooCount
  /-- no activity both recommended and avoided -/
  disjoint : ∀ v ∈ er, v ∉ ea
  apiR : extR = some er
  apiA : extA = some ea

def valuesOk (size : Nat) (f : List Nat) (e : List Nat) : Bool :=
  decide (fieldValues f = some e) && e.all (fun v => Nat.blt v size)

/-- entry `d` of a gods row: `blocks` the records of the month's string, `oe` what the API returned -/
def godsEntryOk (blocks : List (Nat × Nat × List Nat)) (d : Nat) (oe : Option (List Nat)) : Bool :=
  match oe, blockField blocks (hex2 d).1 (hex2 d).2 with
  | some e, some r => valuesOk godCount r e && !e.isEmpty
  | _, _ => false

/-- all 60 day pillars of one month branch: the string is laid out as clean labelled records (so, by
`findRecord_of_layout`, the regex scan returns the aligned record), and every day's record is well formed and equals the API -/
def godsRowOk (monthBranch : Nat) : Bool :=
  match rawDayGods[godTableIndex monthBranch]?, C18Ext.gods[monthBranch]? with
  | some s, some p =>
    -- `layoutOk s (blocksOf s)` with the alternative that holds on the data (a last `;`) first, so that the other
    -- comparison of the whole string is not evaluated
    (decide (renderBlocks (blocksOf s) ++ [59] = s) || decide (renderBlocks (blocksOf s) = s)) &&
    (blocksOf s).all cleanBlock && allN (godsEntryOk (blocksOf s)) 60 0 (unpackLists 60 (bytesOf p))
  | _, _ => false

/-- one record of the table with what the API returned as recommends and as avoids -/
def tabooEntryOk (_ : Nat) (x : List Nat × Option (List Nat) × Option (List Nat)) : Bool :=
  match splitOn 44 x.1, x.2.1, x.2.2 with
  | [fr, fa], some er, some ea => valuesOk tabooCount fr er && valuesOk tabooCount fa ea && disjointMasks er ea
  | _, _, _ => false

/-- all 60 day pillars of one row (month branch of `DAY_TABOO`, hour branch of `HOUR_TABOO`) -/
def tabooRowOk (tbl : List (List Nat)) (extR extA : List (Nat × Nat)) (sup : Nat) : Bool :=
  match tbl[sup]?, extR[sup]?, extA[sup]? with
  | some s, some pr, some pa =>
    allN tabooEntryOk 60 0 ((splitOn 59 s).zip ((unpackLists 60 (bytesOf pr)).zip (unpackLists 60 (bytesOf pa))))
  | _, _, _ => false

theorem valuesOk_spec {size : Nat} {f e : List Nat} (h : valuesOk size f e = true) :
    fieldValues f = some e ∧ ∀ v ∈ e, v < size := by
  unfold valuesOk at h
  simp only [Bool.and_eq_true, decide_eq_true_eq, List.all_eq_true] at h
  refine ⟨h.1, fun v hv => ?_⟩
  have := h.2 v hv
  simpa [Nat.blt_eq] using this

theorem layoutOk_of_swapped {s : List Nat} {blocks : List (Nat × Nat × List Nat)}
    (h : (decide (renderBlocks blocks ++ [59] = s) || decide (renderBlocks blocks = s)) = true)
    (hc : blocks.all cleanBlock = true) : layoutOk s blocks = true := by
  unfold layoutOk; rw [Bool.or_comm, h, hc]; rfl

theorem godsRowOk_parts {mb : Nat} (h : godsRowOk mb = true) :
    ∃ s p, rawDayGods[godTableIndex mb]? = some s ∧ C18Ext.gods[mb]? = some p ∧ layoutOk s (blocksOf s) = true ∧
      allN (godsEntryOk (blocksOf s)) 60 0 (unpackLists 60 (bytesOf p)) = true := by
  unfold godsRowOk at h
  split at h
  · rename_i s p hs hp
    simp only [Bool.and_eq_true] at h
    exact ⟨s, p, hs, hp, layoutOk_of_swapped h.1.1 h.1.2, h.2⟩
  · cases h

theorem godsRowOk_spec {mb : Nat} (h : godsRowOk mb = true) :
    ∀ d, d < 60 → ∃ r e, GodsPair mb d r e := by
  intro d hd
  obtain ⟨s, p, hs, hp, hlay, hall⟩ := godsRowOk_parts h
  obtain ⟨oe, hoe, hok⟩ := allN_spec _ _ _ _ hall d hd
  rw [Nat.zero_add] at hok
  unfold godsEntryOk at hok
  split at hok
  · rename_i e r hfind
    simp only [Bool.and_eq_true, Bool.not_eq_true', List.isEmpty_eq_false_iff] at hok
    obtain ⟨hv, hr⟩ := valuesOk_spec hok.1
    refine ⟨r, e, ⟨?_, hv, hr, hok.2, ?_⟩⟩
    · unfold godRecord; rw [hs]; simp only [findRecord_of_layout hlay, hfind]
    · unfold extGods extRow; rw [hp]; simp only [hoe, Option.join_some]
  · cases hok

theorem godsRowOk_layout {mb : Nat} (h : godsRowOk mb = true) :
    ∃ s, rawDayGods[godTableIndex mb]? = some s ∧ layoutOk s (blocksOf s) = true :=
  let ⟨s, _, hs, _, hlay, _⟩ := godsRowOk_parts h
  ⟨s, hs, hlay⟩

theorem tabooRowOk_spec {tbl : List (List Nat)} {extR extA : List (Nat × Nat)} {sup : Nat}
    (h : tabooRowOk tbl extR extA sup = true) :
    ∀ d, d < 60 → ∃ fr fa er ea, TabooPair tbl (extRow extR sup d) (extRow extA sup d) sup d fr fa er ea := by
  intro d hd
  unfold tabooRowOk at h
  split at h
  · rename_i s pr pa hs hpr hpa
    obtain ⟨⟨rec, oer, oea⟩, hx, hok⟩ := allN_spec _ _ _ _ h d hd
    have hrec := (List.getElem?_zip_eq_some.mp hx).1
    obtain ⟨hoer, hoea⟩ := List.getElem?_zip_eq_some.mp (List.getElem?_zip_eq_some.mp hx).2
    clear hx
    unfold tabooEntryOk at hok
    dsimp only at hok
    split at hok
    · rename_i fr fa er ea hsplit
      simp only [Bool.and_eq_true] at hok
      obtain ⟨⟨h1, h2⟩, h3⟩ := hok
      obtain ⟨hvr, hrr⟩ := valuesOk_spec h1
      obtain ⟨hva, hra⟩ := valuesOk_spec h2
      refine ⟨fr, fa, er, ea, ⟨⟨rec, ?_, hsplit⟩, hvr, hva, hrr, hra, ?_, ?_, ?_⟩⟩
      · unfold tabooRecord; rw [hs]; exact hrec
      · exact disjointMasks_spec h3
      · unfold extRow; rw [hpr]; simp only [hoer, Option.join_some]
      · unfold extRow; rw [hpa]; simp only [hoea, Option.join_some]
    · cases hok
  · cases h

/-! ### consequences for the model of the API (decode(raw) = extension, nothing wraps) -/

theorem GodsPair.decode {mb d : Nat} {r e : List Nat} (h : GodsPair mb d r e) :
    dayGodsRaw rawDayGods mb d = some (e.map Int.ofNat) := by
  unfold dayGodsRaw; rw [h.found]; exact hexPairs_of_fieldValues r e h.parses

theorem TabooPair.field {tbl : List (List Nat)} {xr xa : Option (List Nat)} {sup sub : Nat} {fr fa er ea : List Nat}
    (h : TabooPair tbl xr xa sup sub fr fa er ea) (i : Nat) : tabooField tbl sup sub i = [fr, fa][i]? := by
  obtain ⟨rec, h1, h2⟩ := h.record
  unfold tabooField; rw [h1]; simp only [h2]

theorem TabooPair.decodeR {tbl : List (List Nat)} {xr xa : Option (List Nat)} {sup sub : Nat} {fr fa er ea : List Nat}
    (h : TabooPair tbl xr xa sup sub fr fa er ea) : taboosRaw tbl sup sub 0 = some (er.map Int.ofNat) := by
  unfold taboosRaw; rw [h.field 0]; exact hexPairs_of_fieldValues fr er h.parsesR

theorem TabooPair.decodeA {tbl : List (List Nat)} {xr xa : Option (List Nat)} {sup sub : Nat} {fr fa er ea : List Nat}
    (h : TabooPair tbl xr xa sup sub fr fa er ea) : taboosRaw tbl sup sub 1 = some (ea.map Int.ofNat) := by
  unfold taboosRaw; rw [h.field 1]; exact hexPairs_of_fieldValues fa ea h.parsesA

/-- luck index the API reports for spirit `i`; `none` = refused / no such spirit -/
def extLuck (i : Nat) : Option Nat :=
  match extLuckTable[i]? with
  | some v => if v == 255 then none else some v
  | none => none

/-- spirit `i`: API = model (`index < 60`) = spec (position relative to 五虚 in the lifted name list) -/
def luckEntryOk (i v : Nat) : Bool := v == luck i && luck i == luckOf rawGodNames i

def luckOk : Bool := allN luckEntryOk godCount 0 extLuckTable && extLuckTable.length == godCount

theorem luckOk_spec (h : luckOk = true) : ∀ i, i < godCount →
    extLuck i = some (luck i) ∧ luck i = luckOf rawGodNames i := by
  intro i hi
  unfold luckOk at h
  simp only [Bool.and_eq_true] at h
  obtain ⟨v, hv, hok⟩ := allN_spec _ _ _ _ h.1 i hi
  unfold luckEntryOk at hok
  simp only [Nat.zero_add, Bool.and_eq_true, beq_iff_eq] at hok
  refine ⟨?_, hok.2⟩
  unfold extLuck; rw [hv]; simp only [hok.1]
  have : luck i ≠ 255 := by unfold luck; split <;> omega
  simp [this]

/-- entry `i` (lunar year `i − 1`) with 136-bit record `r`: the whole record is the model's record for its pillar (which
is then a pillar: `kitchenT60At_of_ge`); if not, it must lie beyond year 9999 or be a listed known finding.
The test that nearly always succeeds comes first: the others are then not evaluated. -/
def kitchenEntryOk (i r : Nat) : Bool :=
  Nat.beq r (kitchenT60At (Nat.mod r 256)) || Nat.ble 10001 i || C18Known.kitchenYears.contains ((i : Int) - 1)

/-- chunk `k` = entries 200k .. 200k+199 -/
def kitchenChunkOk (k : Nat) (p : Nat × Nat) : Bool := walkRecs 136 kitchenEntryOk 200 (200 * k) p.2

/-- all 10,001 lunar years −1..9999 (51 literals of 200 records) -/
def kitchenOk : Bool := allN kitchenChunkOk 51 0 C18Ext.kitchen

/-- a passed entry check of a year −1..9999 that is not a known finding: the record is the table's record of its own pillar -/
theorem kitchenEntryOk_spec {i r : Nat} (hi : i < 10001) (hk : ((i : Int) - 1) ∉ C18Known.kitchenYears)
    (h : kitchenEntryOk i r = true) : r % 256 < 60 ∧ r = kitchenT60At (r % 256) := by
  unfold kitchenEntryOk at h
  rw [Bool.eq_false_iff.2 fun hc => hk (List.contains_iff_mem.mp hc),
    Bool.eq_false_iff.2 fun hb => Nat.not_le_of_lt hi (Nat.le_of_ble_eq_true hb), Bool.or_false, Bool.or_false] at h
  have hrT : r = kitchenT60At (r % 256) := Nat.eq_of_beq_eq_true h
  refine ⟨Nat.lt_of_not_le fun hge => ?_, hrT⟩
  rw [kitchenT60At_of_ge hge] at hrT
  rw [hrT] at hge; omega

theorem kitchenOk_spec (h : kitchenOk = true) : ∀ y : Int, -1 ≤ y → y ≤ 9999 → y ∉ C18Known.kitchenYears →
    ∃ p nums, extKitchen y = some (p, nums) ∧ p < 60 ∧ kitchen p = some nums ∧
      AlmanacSpec.kitchen p = nums.map some ∧ ∀ x ∈ nums, 1 ≤ x ∧ x ≤ 12 := by
  intro y h1 h2 hk
  have hi : (y + 1).toNat < 10001 := by omega
  generalize hidef : (y + 1).toNat = i at hi
  have hyi : (i : Int) - 1 = y := by omega
  obtain ⟨c, hc, hok⟩ := allN_spec _ _ _ _ h (i / 200) (by omega)
  have hrec := walkRecs_spec _ _ _ _ _ hok (i % 200) (Nat.mod_lt _ (by omega))
  rw [show 200 * (0 + i / 200) + i % 200 = i by omega,
    show (c.2 >>> (136 * (i % 200))) % 2 ^ 136 = extKitchenRec i by unfold extKitchenRec; rw [hc]] at hrec
  obtain ⟨hp, hrT⟩ := kitchenEntryOk_spec hi (hyi ▸ hk) hrec
  obtain ⟨_, t2, t3, t4⟩ := kitchenT60_spec _ hp
  rw [← hrT] at t2 t3 t4
  refine ⟨extKitchenRec i % 256, numsOfRec (extKitchenRec i), ?_, hp, t2, t3, t4⟩
  unfold extKitchen
  rw [hidef]
  simp only [beq_false_of_ne (show extKitchenRec i % 256 ≠ 255 by omega)]
  rfl

end Tyme.Almanac

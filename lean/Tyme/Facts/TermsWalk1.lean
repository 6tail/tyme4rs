import Tyme.Facts.Walk
import Tyme.Gen.Terms1
import Tyme.Gen.Terms2
import Tyme.Gen.Terms3
namespace Tyme
open Packed Gen

theorem terms_walk2 :
    adjChunks 72 termAll termsPart2 60000 (lastRec 72 termsPart1) = some (lastRec 72 termsPart2) := by decide +kernel

theorem terms_len2 : (records 72 termsPart2).length = 30000 := by rw [records_length]; decide +kernel

theorem terms_walk3 :
    adjChunks 72 termAll termsPart3 90000 (lastRec 72 termsPart2) = some (lastRec 72 termsPart3) := by decide +kernel

theorem terms_len3 : (records 72 termsPart3).length = 30000 := by rw [records_length]; decide +kernel

end Tyme

import Tyme.Lemmas.Keys
import Tyme.Facts.C18Defs
/-! C18 table fact (kernel enumeration, `decide +kernel`): the name lists have no duplicates (all pairs of packed names compared). -/
namespace Tyme
open Almanac AlmanacSpec Gen

/-- no two activities (no two spirits) share a name: equality of `Taboo`/`God` objects (by name) is equality of indices -/
theorem C18_fact_names_nodup : rawTabooNames.Nodup ∧ rawGodNames.Nodup :=
  ⟨nodup_of_keys pack (by decide +kernel), nodup_of_keys pack (by decide +kernel)⟩

end Tyme

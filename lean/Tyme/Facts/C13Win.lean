import Tyme.Facts.Terms
import Tyme.Facts.Months
import Tyme.Lemmas.EphFacts
/-!
The window facts lifted to statements about `realEph` (the tables re-extracted from /repo on every run): where Lichun and
the winter solstice lie in the civil year, and where the lunar new year lies — and, with the facts of Facts/Terms.lean, the
two bundles every generic theorem about an ephemeris asks for: `realEph_termFacts : TermFacts realEph`,
`realEph_newYearFacts : NewYearFacts realEph`.
Kernel-checked over ALL 240,000 term records and ALL 10,000 lunar-year records (`terms_win13_fact`, `years_win_fact`).
-/
namespace Tyme
open Packed

theorem ysN_eq (Y : Nat) (h : 1 ≤ Y) : ((ysN Y : Nat) : Int) = jdn (Y : Int) 1 1 := by
  obtain ⟨k, rfl⟩ : ∃ k, Y = k + 1 := ⟨Y - 1, by omega⟩
  rw [jdn_lo _ 1 1 (by decide)]
  unfold ysN
  -- the quotients as natural numbers, then as unknowns: what is left is linear
  have e1 : 1461 * (k + 1 + 4715) / 4 = 365 * (k + 4716) + (k + 4716) / 4 := by omega
  have e2 : (((k + 1 : Nat) : Int) + 4715) / 4 = (((k + 4716) / 4 : Nat) : Int) := by omega
  have e3 : (((k + 1 : Nat) : Int) - 1) / 100 = ((k / 100 : Nat) : Int) := by omega
  have e4 : ((k / 100 : Nat) : Int) / 4 = ((k / 100 / 4 : Nat) : Int) := by omega
  rw [Nat.add_sub_cancel, e1, e2, e3, e4]
  generalize (k + 4716) / 4 = q
  generalize k / 100 / 4 = c4
  generalize hc : k / 100 = c
  have : c ≤ k := by omega
  split <;> split <;> omega

/-- LIFTED FACT: Lichun of civil year Y (1..9999) falls 24..36 days after January 1 of Y. -/
theorem realEph_lichun_win (Y : Nat) (h1 : 1 ≤ Y) (h2 : Y ≤ 9999) :
    jdn (Y : Int) 1 1 + 24 ≤ realEph.termDay (24 * (Y - 1) + 3) ∧ realEph.termDay (24 * (Y - 1) + 3) ≤ jdn (Y : Int) 1 1 + 36 := by
  have hw := term_fact terms_win13_fact (24 * (Y - 1) + 3) (by omega)
  have e1 : (24 * (Y - 1) + 3) % 24 = 3 := by omega
  have e2 : (24 * (Y - 1) + 3) / 24 + 1 = Y := by omega
  simp only [termWin, e1, e2, beq_self_eq_true, if_true, tDayRaw_ne_zero _ (show 1 ≤ 24 * (Y - 1) + 3 by omega) (by omega),
    Bool.false_or, Bool.and_eq_true, Nat.ble_eq] at hw
  rw [← ysN_eq Y h1]
  simp only [realEph]
  omega

/-- LIFTED FACT: the winter solstice that opens term-year Y (2..10000) falls at least 9 days before January 1 of Y. -/
theorem realEph_dongzhi_win (Y : Nat) (h1 : 2 ≤ Y) (h2 : Y ≤ 10000) :
    realEph.termDay (24 * (Y - 1)) + 9 ≤ jdn (Y : Int) 1 1 := by
  have hw := term_fact terms_win13_fact (24 * (Y - 1)) (by omega)
  have e1 : (24 * (Y - 1)) % 24 = 0 := by omega
  have e2 : (24 * (Y - 1)) / 24 + 1 = Y := by omega
  have e3 : ((0 : Nat) == 3) = false := by decide
  simp only [termWin, e1, e2, e3, Bool.false_eq_true, if_false, beq_self_eq_true, if_true,
    tDayRaw_ne_zero _ (show 1 ≤ 24 * (Y - 1) by omega) (by omega), Bool.false_or, Nat.ble_eq] at hw
  rw [← ysN_eq Y (by omega)]
  simp only [realEph]
  omega

/-- LIFTED FACT: day 1 of lunar year y (1..9999) falls between 5 days before and 59 days after January 1 of civil year y. -/
theorem realEph_newyear_win (y : Nat) (h1 : 1 ≤ y) (h2 : y ≤ 9999) :
    jdn (y : Int) 1 1 ≤ realEph.mFirst (y : Int) 0 + 5 ∧ realEph.mFirst (y : Int) 0 ≤ jdn (y : Int) 1 1 + 59 := by
  have hw := year_fact years_win_fact y (by omega)
  have e0 : (y == 0) = false := beq_false_of_ne (by omega)
  simp only [yearWin, e0, Bool.false_eq_true, if_false, Bool.and_eq_true, Nat.ble_eq] at hw
  rw [← ysN_eq y h1, realEph_mFirst]
  omega

/-- LIFTED FACT: lunar year 0 begins before 0001-01-01. -/
theorem realEph_newyear0 : realEph.mFirst 0 0 ≤ 1721424 := by
  have hw := year_fact years_win_fact 0 (by omega)
  simp only [yearWin, beq_self_eq_true, if_true, Nat.ble_eq] at hw
  rw [show realEph.mFirst 0 0 = realEph.mFirst ((0 : Nat) : Int) 0 from rfl, realEph_mFirst]
  omega

open Cont

/-- the extracted ephemeris satisfies the named term facts (C06 table facts + `terms_win13_fact`) -/
theorem realEph_termFacts : TermFacts realEph where
  repr g := by
    by_cases h : g < 240000
    · exact realEph_term_repr g h
    · have hlen := termRecs_length
      simp only [realEph, getD_past_end (show termRecs.length ≤ g by omega)]
      constructor
      · intro _; right; omega
      · intro _; decide
  inc g h1 h2 := by
    obtain ⟨_, _, a, b, _⟩ := realEph_termInc g h1 h2
    exact ⟨a, b⟩
  lichun := realEph_lichun_win
  dongzhi := realEph_dongzhi_win

theorem realEph_newYearFacts : NewYearFacts realEph := ⟨realEph_newyear_win, realEph_newyear0⟩

end Tyme

import Tyme.Model.Series
import Tyme.Facts.Quick
/-!
C15: point evaluations of the extracted ephemeris (kernel computation on the Gen tables): in the five D4 junction years
8, 23, 24, 236, 239 (no tiling theorem) the lunar-route pillar of the Grain-in-Ear, summer-solstice and Slight-Heat days is
computed outright (15 days).
-/
namespace Tyme
open Series

def pillarOK (g : Nat) : Bool := pillarOf realEph (realEph.termDay g) == some ((realEph.termDay g + 49) % 60)

/-- the Grain-in-Ear, summer-solstice and Slight-Heat days (terms 24·(Y − 1) + 11, 12, 13) of the five junction years -/
theorem c15_bad_year_pillars : ∀ Y ∈ [8, 23, 24, 236, 239], ∀ i ∈ [11, 12, 13], pillarOK (24 * (Y - 1) + i) = true := by
  unfold pillarOK; rw [realEph_eq_quick]; decide +kernel

end Tyme

import Tyme.Facts.Walk
import Tyme.Gen.Terms0
import Tyme.Gen.Terms1
namespace Tyme
open Packed Gen

theorem terms_walk0 :
    adjChunks 72 termAll termsPart0 0 0 = some (lastRec 72 termsPart0) := by decide +kernel

theorem terms_len0 : (records 72 termsPart0).length = 30000 := by rw [records_length]; decide +kernel

theorem terms_walk1 :
    adjChunks 72 termAll termsPart1 30000 (lastRec 72 termsPart0) = some (lastRec 72 termsPart1) := by decide +kernel

theorem terms_len1 : (records 72 termsPart1).length = 30000 := by rw [records_length]; decide +kernel

end Tyme

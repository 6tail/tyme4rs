import Tyme.Facts.C18Defs
/-! C18 table fact (kernel enumeration of the generated data, `decide +kernel`): hour activities (`HOUR_TABOO` against
`Taboo::get_hour_recommends/avoids`), all 12 hour branches × 60 day pillars; re-checked whenever the Gen data change. -/
namespace Tyme
open Almanac Gen

theorem C18_fact_hour : ∀ hb, hb < 12 → tabooRowOk rawHourTaboo C18Ext.hourRec C18Ext.hourAvoid hb = true := by
  decide +kernel

end Tyme

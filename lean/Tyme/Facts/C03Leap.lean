import Tyme.Lemmas.LeapTable
import Tyme.Model.RealEph
import Tyme.Gen.C03Leap
/-! Translator tie for the packed leap-month table: the 12 base-64 delta strings lifted from the TEXT of
src/tyme/lunar.rs decode (under the model of the decoder, `Leap.decodeMonth`) to twelve strictly increasing, pairwise
disjoint year lists, and the look-up over them answers, for every lunar year 0..9999, exactly the leap month that the
library reported in this run's dump (`Gen.leapOfYearP`, the same column the year records of `realEph` are built from).
The kernel evaluates the decoder and `Leap.popWalk`; that the model's `Leap.walk` then accepts is `Leap.walk_of_popWalk`. -/
namespace Tyme
open Packed

def leapAlphabet : List Nat := unpack 8 Gen.leapAlphabetP.1 Gen.leapAlphabetP.2
def leapRaw : List (List Nat) := Gen.leapRawP.map fun p => unpack 8 p.1 p.2
def leapOfYear : List Nat := unpack 4 Gen.leapOfYearP.1 Gen.leapOfYearP.2

theorem C03_leap_table : Leap.tableOK leapAlphabet leapRaw leapOfYear = true :=
  Leap.tableOK_of_popWalk (by decide +kernel)

/-- year `i`'s leap month in the packed extension -/
def leapNib (i : Nat) : Nat := Gen.leapOfYearP.2 / 16 ^ i % 16

def leapSame (i r : Nat) : Bool := decide (10000 ≤ i) || Rec.yLeap r == leapNib i

/-- the extension used here is the leap column of the year records behind `realEph` -/
theorem C03_leap_table_is_realEph : allRec 1024 leapSame Gen.monthsChunks = true := by decide +kernel

end Tyme

import Tyme.Facts.MonthsFact
import Tyme.Lemmas.LunarWalk
/-! Lifting of the kernel-decided month-table facts to statements about `realEph`. -/
namespace Tyme
open Packed

theorem year_fact {p : Nat → Nat → Bool} (h : allRec 1024 p Gen.monthsChunks = true) (y : Nat) (hy : y < 10000) :
    p y (yearRecs.getD y 0) = true :=
  allRec_getD h y (by show y < yearRecs.length; rw [yearRecs_length]; exact hy)

theorem year_pair_fact {p : Nat → Nat → Nat → Bool} (h : adjRec 1024 p Gen.monthsChunks = true) (y : Nat)
    (hy : y + 1 < 10000) : p y (yearRecs.getD y 0) (yearRecs.getD (y + 1) 0) = true :=
  adjRec_getD h y (by show y + 1 < yearRecs.length; rw [yearRecs_length]; exact hy)

theorem realEph_leap (y : Nat) : realEph.leap (y : Int) = Rec.yLeap (yearRecs.getD y 0) := by
  have h1 : ¬ ((y : Int) = -1) := by omega
  have h2 : (0 : Int) ≤ (y : Int) := by omega
  simp only [realEph, h1, h2, if_false, if_true, Int.toNat_natCast]
theorem realEph_mFirst (y i : Nat) : realEph.mFirst (y : Int) i = Rec.sFirst (Rec.slot (yearRecs.getD y 0) i) := rfl
theorem realEph_mLen (y i : Nat) : realEph.mLen (y : Int) i = Rec.sLen (Rec.slot (yearRecs.getD y 0) i) := rfl

theorem slotsOK_spec (r : Nat) : ∀ n i cur, slotsOK r n i cur = true →
    (0 < n → Rec.sFirst (Rec.slot r i) = cur) ∧
    (∀ k, i ≤ k → k + 1 < i + n → Rec.sFirst (Rec.slot r (k + 1)) = Rec.sFirst (Rec.slot r k) + Rec.sLen (Rec.slot r k)) ∧
    (∀ k, i ≤ k → k < i + n → Rec.sLen (Rec.slot r k) = 29 ∨ Rec.sLen (Rec.slot r k) = 30) := by
  intro n
  induction n with
  | zero => intro i cur _; exact ⟨fun h => absurd h (Nat.lt_irrefl 0), fun k _ h => by omega, fun k _ h => by omega⟩
  | succ n ih =>
    intro i cur h
    simp only [slotsOK, Bool.and_eq_true, beq_iff_eq, Bool.or_eq_true] at h
    obtain ⟨⟨h1, h2⟩, h3⟩ := h
    obtain ⟨i1, i2, i3⟩ := ih (i + 1) _ h3
    refine ⟨fun _ => h1, fun k hik hk => ?_, fun k hik hk => ?_⟩
    · rcases Nat.eq_or_lt_of_le hik with rfl | hlt
      · rw [i1 (by omega), h1]
      · exact i2 k hlt (by omega)
    · rcases Nat.eq_or_lt_of_le hik with rfl | hlt
      · exact h2
      · exact i3 k hlt (by omega)

/-- LIFTED FACT: every lunar year 0..9998 of the extracted data tiles, except the five D4 years. -/
theorem realEph_tiles (y : Nat) (hy : y ≤ 9998) (hb : badYear y = false) : TilesYear realEph y := by
  have hp := year_pair_fact years_tile_fact y (by omega)
  have hL := realEph_leap y
  have hF := realEph_mFirst y
  have hN := realEph_mLen y
  have hF1 : realEph.mFirst ((y : Int) + 1) 0 = _ := realEph_mFirst (y + 1) 0
  generalize yearRecs.getD y 0 = a at *
  generalize yearRecs.getD (y + 1) 0 = b at *
  simp only [yearPair, hb, Bool.or_false, Bool.and_eq_true, beq_iff_eq, yearInner, decide_eq_true_eq] at hp
  obtain ⟨⟨⟨⟨hle, hc⟩, hs⟩, hj⟩, hl⟩ := hp
  obtain ⟨_, s2, s3⟩ := slotsOK_spec a _ 0 _ hs
  have hcnt : realEph.cnt (y : Int) = Rec.yCount a := by unfold Eph.cnt; rw [hL, hc]
  have hcpos : 0 < Rec.yCount a := by rw [hc]; split <;> omega
  refine ⟨by rw [hL]; exact hle, fun i hi => ?_, fun i hi => ?_, ?_, ?_⟩
  · rw [hcnt] at hi
    rw [hF, hF, hN, s2 i (Nat.zero_le _) (by omega)]; simp
  · rw [hcnt] at hi
    have := s3 i (Nat.zero_le _) (by omega)
    rw [hN]; omega
  · rw [hF1, hj, hcnt, hF, hN]; simp [yearEnd]
  · rw [hF1, hj, hF]
    simp only [yearLenOK, Bool.or_eq_true, Bool.and_eq_true, decide_eq_true_eq] at hl
    have hge : Rec.sFirst (Rec.slot a 0) ≤ yearEnd a := by omega
    omega

/-- the ephemeris reads 0 past the end of a table -/
theorem getD_past_end {l : List Nat} {n : Nat} (h : l.length ≤ n) : l.getD n 0 = 0 := by
  rw [List.getD_eq_getElem?_getD, List.getElem?_eq_none h]; rfl

/-- LIFTED FACT: every lunar year of the ephemeris has a leap month number ≤ 12 (all integers y). -/
theorem realEph_leap_le (y : Int) : realEph.leap y ≤ 12 := by
  by_cases hy : 0 ≤ y ∧ y < 10000
  · obtain ⟨n, rfl⟩ : ∃ n : Nat, y = n := ⟨y.toNat, by omega⟩
    have := year_fact years_leap_fact n (by omega)
    rw [realEph_leap]
    simp only [yearLeapOK, Bool.and_eq_true, decide_eq_true_eq] at this
    exact this.1
  · -- outside the table: year −1 has leap month 11 by definition, every other year reads the empty record
    simp only [realEph]
    split
    · decide
    · split
      · rw [getD_past_end (by have := yearRecs_length; omega)]; decide
      · decide

end Tyme

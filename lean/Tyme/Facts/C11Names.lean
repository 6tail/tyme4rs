import Tyme.Thm.C11
import Tyme.Lemmas.Keys
import Tyme.Gen.C11Names
import Tyme.Gen.C11Known
/-!
C11 table facts about the name lists re-extracted from the library on every run (`Tyme/Gen/C11Names.lean`,
written by `props_c11.gen_c11_names` from `tymeh enum c11.namedump`).  Each fact is decided by evaluation over the
complete finite table (815 names in 47 lists) — a complete proof on this finite domain, labelled as enumeration.
The known (type, index) pairs come from known_findings.json via `Tyme/Gen/C11Known.lean`.
-/
namespace Tyme
open C11Gen

/-- the k-th table of the dump: (type name, is a plain enum, has `from_name`, names) -/
def tableAt (k : Nat) : String × Bool × Bool × List (List Nat) := nameTables.getD k ("", false, false, [])

/-- Bool check: `from_name(get_name(i)) = i` for every element of table `k` except the listed (k, i) -/
def roundTripB (k : Nat) (known : List (Nat × Nat)) : Bool :=
  let names := (tableAt k).2.2.2
  (List.range names.length).all fun i => known.contains (k, i) || fromName names (getName names i) == some i

/-- the model's table of types (names, sizes, which ones have `from_name`) is the library's. -/
theorem C11_sizes_match :
    (nameTables.filter fun t => !t.2.1).map (fun t => (t.1, t.2.2.2.length, t.2.2.1)) = cycTypes ∧
    (nameTables.filter fun t => t.2.1).map (fun t => (t.1, t.2.2.2.length)) = enumTypes := by
  constructor <;> rfl

/-- the known pairs by position are the known pairs by type name. -/
theorem C11_known_tie : knownNamePairs = knownNameIdx.map fun p => ((tableAt p.1).1, p.2) := by rfl

/-- every name list that has a `from_name` lookup, except the `Phase` list, is free of duplicates … -/
theorem C11_names_nodup : ∀ t ∈ nameTables, t.2.2.1 = true → t.2.2.2 ≠ names_Phase → t.2.2.2.Nodup := by
  have h : (nameTables.all fun t => !t.2.2.1 || t.2.2.2 == names_Phase || nodupNat (t.2.2.2.map pack)) = true := by
    decide +kernel
  intro t ht hf hne
  have := List.all_eq_true.mp h t ht
  simp only [Bool.or_eq_true, beq_iff_eq, Bool.not_eq_true'] at this
  rcases this with (e | e) | e
  · rw [hf] at e; exact absurd e (by simp)
  · exact absurd e hne
  · exact nodup_of_keys pack e

/-- … hence index<->name are mutually inverse on all of them (the 38 cyclic lists with `from_name` other than `Phase`, and the 5 enums). -/
theorem C11_names_inverse : ∀ t ∈ nameTables, t.2.2.1 = true → t.2.2.2 ≠ names_Phase → ∀ i, i < t.2.2.2.length →
    fromName t.2.2.2 (getName t.2.2.2 i) = some i :=
  fun t ht hf hne i hi => C11_fromName_getName _ (C11_names_nodup t ht hf hne) i hi

/-- The full statement (FALSE on the current data, see `Tyme/Findings/C11.lean`): for every type that has a
`from_name` lookup and every element, `from_name(get_name(i)) = i`. -/
def C11_names_full : Prop :=
  ∀ k, k < nameTables.length → (tableAt k).2.2.1 = true → ∀ i, i < (tableAt k).2.2.2.length →
    fromName (tableAt k).2.2.2 (getName (tableAt k).2.2.2 i) = some i

/-- The proved statement: the same, excluding exactly the (type, index) pairs listed in known_findings.json
(`knownNameIdx`, tied to the names by `C11_known_tie`). -/
theorem C11_names_partial : ∀ k, k < nameTables.length → (tableAt k).2.2.1 = true → ∀ i, i < (tableAt k).2.2.2.length →
    (k, i) ∉ knownNameIdx → fromName (tableAt k).2.2.2 (getName (tableAt k).2.2.2 i) = some i := by
  intro k hk hf i hi hn
  by_cases hP : (tableAt k).2.2.2 = names_Phase
  · -- only a list equal to the `Phase` list needs the round trip evaluated, element by element
    have h : ∀ k, k < nameTables.length → (tableAt k).2.2.2 = names_Phase → roundTripB k knownNameIdx = true := by
      decide +kernel
    have h2 := List.all_eq_true.mp (h k hk hP) i (List.mem_range.mpr hi)
    simp only [Bool.or_eq_true, List.contains_eq_mem, decide_eq_true_eq, beq_iff_eq] at h2
    exact h2.resolve_left hn
  · refine C11_names_inverse (tableAt k) ?_ hf hP i hi
    rw [tableAt, List.getD_eq_getElem?_getD, List.getElem?_eq_getElem hk]
    exact List.getElem_mem hk

/-- the listed pairs are exactly the failing ones: each of them really fails (no superfluous exclusion). -/
theorem C11_names_known_exact : ∀ p ∈ knownNameIdx, p.1 < nameTables.length ∧ (tableAt p.1).2.2.1 = true ∧
    p.2 < (tableAt p.1).2.2.2.length ∧
    fromName (tableAt p.1).2.2.2 (getName (tableAt p.1).2.2.2 p.2) ≠ some p.2 := by
  have h : (knownNameIdx.all fun p => decide (p.1 < nameTables.length) && (tableAt p.1).2.2.1 &&
      decide (p.2 < (tableAt p.1).2.2.2.length) &&
      !(fromName (tableAt p.1).2.2.2 (getName (tableAt p.1).2.2.2 p.2) == some p.2)) = true := by
    decide +kernel
  intro p hp
  have h1 := List.all_eq_true.mp h p hp
  simp only [Bool.and_eq_true, decide_eq_true_eq, Bool.not_eq_true', beq_eq_false_iff_ne, ne_eq] at h1
  exact ⟨h1.1.1.1, h1.1.1.2, h1.1.2, h1.2⟩

/-- the sixty-cycle names are stem k%10 followed by branch k%12 (what `SixtyCycleYear::get_first_month` relies on
when it looks a pillar up by the concatenated name). -/
theorem C11_sixty_names : ∀ k, k < 60 →
    getName names_SixtyCycle k = getName names_HeavenStem (k % 10) ++ getName names_EarthBranch (k % 12) := by
  have h : ((List.range 60).all fun k =>
      getName names_SixtyCycle k == getName names_HeavenStem (k % 10) ++ getName names_EarthBranch (k % 12)) = true := by
    decide +kernel
  intro k hk
  have := List.all_eq_true.mp h k (List.mem_range.mpr hk)
  simpa using this

end Tyme

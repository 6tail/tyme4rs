import Tyme.Facts.Walk
import Tyme.Gen.Terms5
import Tyme.Gen.Terms6
import Tyme.Gen.Terms7
namespace Tyme
open Packed Gen

theorem terms_walk6 :
    adjChunks 72 termAll termsPart6 180000 (lastRec 72 termsPart5) = some (lastRec 72 termsPart6) := by decide +kernel

theorem terms_len6 : (records 72 termsPart6).length = 30000 := by rw [records_length]; decide +kernel

theorem terms_walk7 :
    adjChunks 72 termAll termsPart7 210000 (lastRec 72 termsPart6) = some (lastRec 72 termsPart7) := by decide +kernel

theorem terms_len7 : (records 72 termsPart7).length = 30000 := by rw [records_length]; decide +kernel

end Tyme

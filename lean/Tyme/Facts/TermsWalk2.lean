import Tyme.Facts.Walk
import Tyme.Gen.Terms3
import Tyme.Gen.Terms4
import Tyme.Gen.Terms5
namespace Tyme
open Packed Gen

theorem terms_walk4 :
    adjChunks 72 termAll termsPart4 120000 (lastRec 72 termsPart3) = some (lastRec 72 termsPart4) := by decide +kernel

theorem terms_len4 : (records 72 termsPart4).length = 30000 := by rw [records_length]; decide +kernel

theorem terms_walk5 :
    adjChunks 72 termAll termsPart5 150000 (lastRec 72 termsPart4) = some (lastRec 72 termsPart5) := by decide +kernel

theorem terms_len5 : (records 72 termsPart5).length = 30000 := by rw [records_length]; decide +kernel

end Tyme
